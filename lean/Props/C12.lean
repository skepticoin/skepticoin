import Props.C13
import Proofs.Value
import Proofs.Mining
/-!
# C12 — mining: assembled blocks are valid, pay subsidy plus fees, and are adopted

The instances that meet the hypotheses are in `Props/NonVacuity1.lean`.
-/

namespace Model
namespace C12

variable (C : Crypto) (P : Params)

/-- the reward of an assembled candidate pays exactly subsidy(height) plus the fees of the
included transactions to the miner's key, in one output; its timestamp is later than its
parent's; it builds on the head with the head's height plus one -/
theorem candidate_shape (m : ChainMgr) (pk : Bytes) (clock nonce : Nat) (s : Summary) (h : Nat)
    (txs : List CTx) (hc : minerCandidate C P m pk clock nonce = .ok (s, h, txs)) :
    ∃ hd u fees cb, m.coinstate.head = some hd ∧ headUtxo m.coinstate = some u ∧
      blockFees u m.pool = .ok fees ∧ txs = cb :: m.pool ∧
      cb.tx = ⟨[⟨thinAir, .coinbase (hd.height + 1) []⟩],
               [⟨((subsidy P (hd.height + 1) : Int) + fees).toNat, pk⟩]⟩ ∧
      h = hd.height + 1 ∧ s.height = hd.height + 1 ∧ some s.prev = m.coinstate.current ∧
      s.timestamp = max clock (hd.timestamp + 1) ∧ hd.timestamp < s.timestamp := by
  obtain ⟨hd, cur, u, fees, root, target, hcur, hb, hu, hfees, _, _, hs, hh, htxs⟩ :=
    minerCandidate_ok C P m pk clock nonce s h txs hc
  subst hs
  refine ⟨hd, u, fees, rewardTx P (hd.height + 1) fees pk, ?_, ?_, hfees, htxs, rfl, hh, rfl, ?_,
    rfl, ?_⟩
  · rw [CoinState.head_of_current hcur, hb]
  · rw [headUtxo_of_current hcur, hu]
  · rw [hcur]
  · show hd.timestamp < max clock (hd.timestamp + 1)
    omega

/-- the candidate's clock corner (a known finding on the pinned tree, D5): when the head is
already 30 s or more ahead of the clock, the candidate's timestamp is more than 30 s ahead and
the node's own validation refuses it — the hypothesis `s.timestamp ≤ now + 30` below is forced -/
theorem future_head_candidate_rejected (cs : CoinState) (b : Block) (now : Int)
    (hts : (b.timestamp : Int) > now + P.maxFutureBlockTime) :
    ∀ cs', addBlock C P cs b now ≠ .ok cs' :=
  addBlock_future_rejected hts cs

/-- whenever the miner assembles a candidate from the served state and a pool satisfying the
pool invariant (C13), the evidence is completed from the scrypt output and the id is below
target, the block passes the node's own full validation — provided it fits in one block, its
timestamp is not more than 30 s ahead of the validating clock (see above), the checkpoint
horizon is below it and the retarget interval is positive.
`_partial`: the clock corner excluded by `hclock` is the known finding D5. -/
theorem assembled_block_valid_partial (m : ChainMgr) (pk : Bytes) (clock nonce : Nat) (s : Summary) (h : Nat)
    (txs : List CTx) (now : Int) (hpool : C13.PoolInv C P m)
    (hc : minerCandidate C P m pk clock nonce = .ok (s, h, txs))
    (ev : Evidence) (hev : evidenceAfterScrypt C P m.coinstate (summaryHash C s h) s h txs = .ok ev)
    (hpow : bytesLt (C.sha256d (encHeader ⟨s, ev⟩)) s.target = true)
    (hclock : (s.timestamp : Int) ≤ now + P.maxFutureBlockTime)
    (hsize : (encBlock (Block.fresh ⟨s, ev⟩ txs)).length ≤ P.maxBlockSize)
    (hhor : P.maxKnownHeight < (h : Int)) (hint : 0 < P.retargetInterval)
    -- ADDED HYPOTHESIS: the head's id is not the all-zeros parent reference of a genesis block
    -- (`add_block_no_validation` starts a block whose parent reference is all zeros from the
    -- empty unspent set, so a non-empty pool could not be applied); true of every state built by
    -- `foldBlocks` from well-formed arrivals (`WFArrivals`: no block id is all zeros)
    (hz : m.coinstate.current ≠ some (zeros 32))
    -- ADDED HYPOTHESIS: the by-height index of the head is stored (`add_block_no_validation`
    -- reads `block_by_height_by_hash[previous_block_hash]`); true of every state built by
    -- `foldBlocks`, which stores the index together with every block it adds
    (hbh : m.coinstate.current.bind m.coinstate.byHeightAt.get? ≠ none) :
    ∃ cs', addBlock C P m.coinstate (Block.fresh ⟨s, ev⟩ txs) now = .ok cs' := by
  obtain ⟨hd, cur, u, fees, root, target, hcur, hb, hu, hfees, hroot, htarget, hs, hh, htxs⟩ :=
    minerCandidate_ok C P m pk clock nonce s h txs hc
  subst hs hh htxs
  have _ := hint   -- not needed: the target the candidate carries is the one `calc_target` returned
  have hin : ∀ t ∈ m.pool, validateTxInState C u t = .ok () := fun t ht =>
    validateTxAtHead_of_headUtxo C ((headUtxo_of_current hcur).trans hu) t ▸ (hpool.1 t ht).2
  have hfnn : 0 ≤ fees := blockFees_nonneg u m.pool fees hfees fun t ht =>
    (validateTxInState_of_ok (hin t ht)).imp fun _ h => h.2
  have hne : ∀ t ∈ m.pool, t.tx.inputs.length ≠ 0 := fun t ht =>
    ((validateTxByItself_ok P t).mp (hpool.1 t ht).1).inputs
  have hpresent : ∀ r ∈ allRefs m.pool, u.contains r = true := by
    intro r hr
    obtain ⟨t, ht, i, hi, rfl⟩ := mem_allRefs.1 hr
    obtain ⟨_, hins, _, _⟩ := validateTxInState_of_ok (hin t ht)
    obtain ⟨o, _, ho, _⟩ := hins i hi
    exact (Map.contains_eq_true_iff u i.ref).mpr ⟨o, ho⟩
  have hz' : cur ≠ zeros 32 := fun h0 => hz (by rw [hcur, h0])
  rw [hcur] at hbh
  obtain ⟨bh, hbh'⟩ : ∃ bh, m.coinstate.byHeightAt.get? cur = some bh := Option.ne_none_iff_exists'.1 hbh
  obtain ⟨u', hu'⟩ := utoApplyBlock_of_present_nodup C u (Block.fresh ⟨_, ev⟩ _) _ _ rfl hpool.2 hpresent
  -- the ledger update succeeds; the block then passes the checks made of it alone and those against the served state
  refine (add_ok_of C hz' hu hu' hbh' (headWith_parent C hcur)).imp fun cs' h3 => addBlock_of ?byItself hhor ?inState h3
  case byItself =>
    -- `nonempty`: the reward carries the height and no data; the pool's transactions are valid by themselves, without
    -- duplicates, without a shared reference
    exact { pow := hpow, notFuture := hclock, size := hsize, merkle := hroot
            nonempty := ⟨_, _, rfl, ⟨[], rfl, Nat.zero_le _⟩, fun t ht => (hpool.1 t ht).1,
              noDuplicateTxs_of_nodup C m.pool hne hpool.2, hpool.2⟩ }
  case inState =>
    -- `parent`: the head, with a later timestamp, the height and the target; `ledger`: the head's unspent set, the fees,
    -- the reward within subsidy plus fees, the pool valid
    refine { parent := ⟨hd, hb, ?_, rfl, htarget⟩, evidence := hev
             ledger := ⟨u, _, _, fees, hu, rfl, hfees, ?_, hin⟩ }
    · show hd.timestamp < max clock (hd.timestamp + 1)
      omega
    · show ((outputsValue [⟨((subsidy P (hd.height + 1) : Int) + fees).toNat, pk⟩] : Nat) : Int) ≤
        fees + (subsidy P (hd.height + 1) : Int)
      simp only [outputsValue_cons, outputsValue_nil]
      omega

/-- when such a block is found (the handler returns normally with a block), the block is part
of the chain state the node serves, it is the head if it extends the head, it is written to the
block store and it was queued to every peer that has exchanged greetings -/
theorem found_block_adopted (n : Node) (cs : CoinState) (s : Summary) (h : Nat) (txs : List CTx)
    (sh : Bytes) (now : Int) (n' : Node) (b : Block)
    (hf : minerFound C P n cs s h txs sh now = ((n', none), some b))
    (hsol : bytesLt (b.id C) b.target = true) :
    addBlock C P cs b now = .ok n'.mgr.coinstate ∧
    n'.mgr.coinstate.blocks.contains (b.id C) = true ∧
    (cs.current = some b.prev → n'.mgr.coinstate.current = some (b.id C)) ∧
    (∃ x ∈ n'.disk, x.id C = b.id C) ∧ n'.wbuf = [] ∧
    n'.peers.map (·.outbox.length) =
      n.peers.map (fun p => if p.active then p.outbox.length + 1 else p.outbox.length) := by
  -- `hsol` is not used: `minerFound` hands a block on only after it has itself found the id below the target
  rcases minerFound_cases C P n cs s h txs sh now with ⟨_, _, h'⟩ | h' | ⟨b', cs', hadd, h'⟩ <;> rw [h'] at hf
  · cases hf
  · cases hf
  · simp only [Prod.mk.injEq, and_true, Option.some.injEq] at hf
    obtain ⟨rfl, rfl⟩ := hf
    have h3 := (addBlock_accepted hadd).2.2
    -- each component is read off `adoptFound` by unfolding: `mgr` is `setCoinstate … cs' true`, `wbuf` is `[]` after the flush,
    -- the connections are those of the broadcast
    refine ⟨hadd, ?_, fun hc => ?_, ?_, rfl, broadcast_outbox_length _ _⟩
    · show cs'.blocks.contains _ = true
      rw [add_ok_contains C h3, decide_eq_true rfl, Bool.true_or]
    · obtain ⟨cur, hcur, hc'⟩ := add_ok_current C h3
      rw [headWith_parent C hc] at hcur
      cases hcur
      exact hc'
    · exact flush_foldl_buffered C _ _ _ (List.mem_append_right _ (List.mem_singleton.mpr rfl))

/-- a block that fails the node's own validation is neither served nor broadcast nor stored -/
theorem invalid_found_block_not_adopted (n : Node) (cs : CoinState) (s : Summary) (h : Nat)
    (txs : List CTx) (sh : Bytes) (now : Int) (n' : Node) (b : Block) (e : Err)
    (hf : minerFound C P n cs s h txs sh now = ((n', some e), some b)) : n' = n := by
  rcases minerFound_cases C P n cs s h txs sh now with ⟨_, _, h'⟩ | h' | ⟨_, _, _, h'⟩ <;> rw [h'] at hf
  · exact (congrArg (·.1.1) hf).symm
  · cases hf
  · cases hf

end C12
end Model
