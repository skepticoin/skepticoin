import Proofs.NodeLemmas

/-!
# C13 — the pending-transaction pool holds only valid, mutually compatible transactions

The instances that meet the hypotheses are in `Props/NonVacuity1.lean`.
-/

namespace Model
namespace C13

variable (C : Crypto) (P : Params)

/-- each pending transaction is individually valid against the ledger state of the current head
and no two pending transactions spend the same output -/
def PoolInv (m : ChainMgr) : Prop :=
  (∀ t ∈ m.pool, validateTxByItself P t = .ok () ∧ validateTxAtHead C m.coinstate t = .ok ()) ∧
  (allRefs m.pool).Nodup

theorem allRefs_append (a b : List CTx) : allRefs (a ++ b) = allRefs a ++ allRefs b := by
  simp [allRefs]

/-- what `add_transaction_to_pool` returning "admitted" established -/
theorem admitted_only_if_valid_and_compatible (m m' : ChainMgr) (t : CTx)
    (h : addTxToPool C P m t = .ok (m', true)) :
    validateTxByItself P t = .ok () ∧ validateTxAtHead C m.coinstate t = .ok () ∧
    (allRefs (m.pool ++ [t])).Nodup ∧ m' = { m with pool := m.pool ++ [t] } := by
  obtain ⟨hc, he⟩ := (addTxToPool_admitted C P m m' t).1 h
  obtain ⟨h1, h2, h3⟩ := (poolChecks_ok C P m t).1 hc
  exact ⟨h1, h2, h3, he⟩

/-- a transaction failing either condition is never admitted: the manager is unchanged -/
theorem not_admitted_leaves_pool (m m' : ChainMgr) (t : CTx)
    (h : addTxToPool C P m t = .ok (m', false)) : m' = m :=
  ((addTxToPool_refused C P m m' t).1 h).2

theorem invalid_or_conflicting_not_admitted (m : ChainMgr) (t : CTx)
    (hbad : validateTxByItself P t ≠ .ok () ∨ validateTxAtHead C m.coinstate t ≠ .ok () ∨
      ¬ (allRefs (m.pool ++ [t])).Nodup) :
    ∀ m', addTxToPool C P m t ≠ .ok (m', true) := by
  intro m' h
  obtain ⟨h1, h2, h3, _⟩ := admitted_only_if_valid_and_compatible C P m m' t h
  rcases hbad with hb | hb | hb
  · exact hb h1
  · exact hb h2
  · exact hb h3

theorem submit_preserves (m m' : ChainMgr) (t : CTx) (r : Bool) (hinv : PoolInv C P m)
    (h : addTxToPool C P m t = .ok (m', r)) : PoolInv C P m' := by
  cases r with
  | false => rw [not_admitted_leaves_pool C P m m' t h]; exact hinv
  | true =>
    obtain ⟨h1, h2, h3, he⟩ := admitted_only_if_valid_and_compatible C P m m' t h
    subst he
    refine ⟨?_, h3⟩
    intro x hx
    simp only [List.mem_append, List.mem_singleton] at hx
    rcases hx with hx | rfl
    · exact hinv.1 x hx
    · exact ⟨h1, h2⟩

/-- after any head change — extension or reorganisation — the pool is exactly the old pool
filtered by validity at the new head, in order: no-longer-valid transactions are evicted, those
still valid remain -/
theorem cleanup_is_filter (m : ChainMgr) (cs : CoinState) (v : Bool) (t : CTx) :
    t ∈ (setCoinstate C m cs v).pool ↔ (t ∈ m.pool ∧ validateTxAtHead C cs t = .ok ()) := by
  simp only [setCoinstate, cleanupPool, List.mem_filter]
  cases validateTxAtHead C cs t <;> simp

theorem cleanup_keeps_order (m : ChainMgr) (cs : CoinState) (v : Bool) :
    (setCoinstate C m cs v).pool.Sublist m.pool :=
  List.filter_sublist

theorem setState_preserves (m : ChainMgr) (cs : CoinState) (v : Bool)
    (hinv : (∀ t ∈ m.pool, validateTxByItself P t = .ok ()) ∧ (allRefs m.pool).Nodup) :
    PoolInv C P (setCoinstate C m cs v) := by
  -- less than `PoolInv` is asked of `m`: validity at the old head plays no role, the clean-up keeps what is valid at `cs`
  refine ⟨?_, ?_⟩
  · intro t ht
    have h := (cleanup_is_filter C m cs v t).mp ht
    exact ⟨hinv.1 t h.1, h.2⟩
  · exact List.Nodup.sublist (allRefs_filter_sublist _ _) hinv.2

/-- every interleaving of submissions and head changes, from any manager with an empty pool -/
inductive Reachable : ChainMgr → Prop where
  | init (cs : CoinState) (lv : Option CoinState) : Reachable ⟨cs, [], lv⟩
  | submit (m m' : ChainMgr) (t : CTx) (r : Bool) :
      Reachable m → addTxToPool C P m t = .ok (m', r) → Reachable m'
  | setState (m : ChainMgr) (cs : CoinState) (v : Bool) : Reachable m → Reachable (setCoinstate C m cs v)

theorem pool_inv_reachable (m : ChainMgr) (h : Reachable C P m) : PoolInv C P m := by
  induction h with
  | init cs lv => exact ⟨(by intro t ht; cases ht), List.nodup_nil⟩
  | submit m m' t r _ ha ih => exact submit_preserves C P m m' t r ih ha
  | setState m cs v _ ih =>
    exact setState_preserves C P m cs v ⟨fun t ht => (ih.1 t ht).1, ih.2⟩

/-- no two pending transactions spend the same output, spelled out -/
theorem no_shared_output (m : ChainMgr) (h : Reachable C P m) (t₁ t₂ : CTx) (i₁ i₂ : Input)
    (n₁ n₂ : Nat) (hn : n₁ < n₂) (h₁ : m.pool[n₁]? = some t₁) (h₂ : m.pool[n₂]? = some t₂)
    (hi₁ : i₁ ∈ t₁.tx.inputs) (hi₂ : i₂ ∈ t₂.tx.inputs) : i₁.ref ≠ i₂.ref := by
  -- `allRefs` lists the references transaction by transaction: without repetition, those of two positions differ
  have hnd := (List.pairwise_flatMap.1 (pool_inv_reachable C P m h).2).2
  obtain ⟨k₁, rfl⟩ := List.getElem?_eq_some_iff.1 h₁
  obtain ⟨k₂, rfl⟩ := List.getElem?_eq_some_iff.1 h₂
  exact List.pairwise_iff_getElem.1 hnd n₁ n₂ k₁ k₂ hn _ (List.mem_map_of_mem hi₁) _ (List.mem_map_of_mem hi₂)

end C13
end Model
