import Model.Fetch
import Proofs.NodeLemmas

/-!
# C10 (continued) — when a node asks for blocks on its own initiative (`ChainManager.step`)

`Model.chainStep` is the fetch scheduler. What is proved here, for every node state, scheduler state, clock and choice:

* a step that is not due changes nothing; a due step changes at most one connection, to which it sends exactly one
  `GetBlocks` carrying the node's own locator, and never touches chain state, pool or store;
* who can be asked (`candidate_iff`): exactly the greeted, open connections whose last *empty* answer is older than the
  back-off — in particular a connection with an unfinished inventory batch stays eligible
  (`candidate_ignores_inventory_state`);
* the slot is freed by time alone (`slot_free_after_timeouts`) or by completed batches (`slot_free_when_handled`), so
  a due step with an eligible peer **does ask** once the timeouts of earlier requests have passed
  (`asks_again_after_timeouts`) — an unfinished batch cannot silence the scheduler;
* the list of outstanding requests stays bounded (`fetching_bounded`).

With `C10Walk.every_missing_block_offered` (what the loop started by that request lists) these are the per-node halves of
the convergence statement; the interleaving of several peers is executed (part B of the harness), not proved.
-/

namespace C10Fetch
open Model

variable (C : Crypto) (F : FetchParams)

theorem idle_when_not_due (n : Node) (f : FetchSt) (now : Int) (pick : Nat) (hd : Block)
    (hhead : n.mgr.coinstate.head = some hd)
    (h : shouldFetch F hd.header.summary.timestamp f.startedAt now = false) :
    chainStep C F n f now pick = .ok (n, f) := by
  simp [chainStep, hhead, h]

theorem idle_without_candidates (n : Node) (f : FetchSt) (now : Int) (pick : Nat) (hd : Block)
    (hhead : n.mgr.coinstate.head = some hd) (h : candidates F n f now = []) :
    chainStep C F n f now pick = .ok (n, f) := by
  simp [chainStep, hhead, h]

/-- who can be asked -/
theorem candidate_iff (n : Node) (f : FetchSt) (now : Int) (c : Nat) :
    c ∈ candidates F n f now ↔
      ∃ p, n.peers[c]? = some p ∧ p.active = true ∧ now > f.lastEmpty c + F.emptyBackoff := by
  unfold candidates candidateOk
  simp only [List.mem_filter]
  cases hp : n.peers[c]? with
  | none => simp
  | some p => simp [(List.getElem?_eq_some_iff.mp hp).1]

/-- eligibility looks at the greeting flags and the last empty answer only: whatever happens to a connection's pending
inventory, its waiting flag or its outbox leaves the candidate list as it is -/
theorem candidate_ignores_inventory_state (n : Node) (f : FetchSt) (now : Int) (c : Nat) (g : PeerSt → PeerSt)
    (hg : ∀ p, (g p).active = p.active) :
    candidates F (n.updatePeer c g) f now = candidates F n f now := by
  unfold candidates
  rw [Node.updatePeer_length]
  apply List.filter_congr
  intro i _
  rw [Node.updatePeer_getElem?]
  cases n.peers[i]? with
  | none => rfl
  | some p =>
    simp only [Option.map_some]
    split
    · rw [hg]
    · rfl

theorem mem_pruneFetching (n : Node) (f : FetchSt) (now : Int) (e : Int × Nat) :
    e ∈ pruneFetching n f now ↔
      e ∈ f.fetching ∧ now < e.1 ∧ ∃ p, n.peers[e.2]? = some p ∧ batchHandled p = false := by
  unfold pruneFetching stillFetching
  rw [List.mem_filter]
  cases n.peers[e.2]? <;> simp

/-- the slot is freed by time alone -/
theorem slot_free_after_timeouts (n : Node) (f : FetchSt) (now : Int)
    (h : ∀ e ∈ f.fetching, e.1 ≤ now) : pruneFetching n f now = [] := by
  refine List.eq_nil_iff_forall_not_mem.2 fun e he => ?_
  obtain ⟨hmem, hlt, -⟩ := (mem_pruneFetching n f now e).1 he
  exact absurd (h e hmem) (Int.not_le.2 hlt)

/-- … or by completed batches -/
theorem slot_free_when_handled (n : Node) (f : FetchSt) (now : Int)
    (h : ∀ e ∈ f.fetching, ∀ p, n.peers[e.2]? = some p → batchHandled p = true) :
    pruneFetching n f now = [] := by
  refine List.eq_nil_iff_forall_not_mem.2 fun e he => ?_
  obtain ⟨hmem, -, p, hp, hb⟩ := (mem_pruneFetching n f now e).1 he
  rw [h e hmem p hp] at hb
  cases hb

/-- pruning keeps only entries of the old list whose timeout lies ahead -/
theorem prune_keeps (n : Node) (f : FetchSt) (now : Int) (e : Int × Nat) (he : e ∈ pruneFetching n f now) :
    e ∈ f.fetching ∧ now < e.1 :=
  ⟨((mem_pruneFetching n f now e).1 he).1, ((mem_pruneFetching n f now e).1 he).2.1⟩

theorem pick_mem (l : List Nat) (hne : l ≠ []) (pick : Nat) : l.getD (pick % l.length) 0 ∈ l := by
  have hidx : pick % l.length < l.length := Nat.mod_lt _ (List.length_pos_iff.2 hne)
  rw [List.getD_eq_getElem?_getD, List.getElem?_eq_getElem hidx, Option.getD_some]
  exact List.getElem_mem hidx

/-- the shape of a request -/
theorem request_shape (n : Node) (f : FetchSt) (now : Int) (pick : Nat) (hd : Block) (loc : List Bytes)
    (hhead : n.mgr.coinstate.head = some hd)
    (hdue : shouldFetch F hd.header.summary.timestamp f.startedAt now = true)
    (hc : candidates F n f now ≠ [])
    (hslot : (pruneFetching n f now).length ≤ F.maxIbdPeers)
    (hloc : locator C n.mgr.coinstate = .ok loc) :
    ∃ c ∈ candidates F n f now,
      chainStep C F n f now pick =
        .ok ((n.updatePeer c fun p => { p with waitingForInventory := true }).send c (.getBlocks loc),
             { f with fetching := pruneFetching n f now ++ [(now + F.ibdPeerTimeout, c)] }) := by
  have hne : (candidates F n f now).isEmpty = false := List.isEmpty_eq_false_iff.2 hc
  have hm : ¬ (pruneFetching n f now).length > F.maxIbdPeers := by omega
  refine ⟨_, pick_mem _ hc pick, ?_⟩
  simp [chainStep, hhead, hdue, hne, hm, hloc]

/-- a due step with an eligible peer asks again once the timeouts of the earlier requests have passed, whatever the state
of any inventory batch -/
theorem asks_again_after_timeouts (n : Node) (f : FetchSt) (now : Int) (pick : Nat) (hd : Block) (loc : List Bytes)
    (hhead : n.mgr.coinstate.head = some hd)
    (hdue : shouldFetch F hd.header.summary.timestamp f.startedAt now = true)
    (c₀ : Nat) (p₀ : PeerSt) (hp : n.peers[c₀]? = some p₀) (hact : p₀.active = true)
    (hback : now > f.lastEmpty c₀ + F.emptyBackoff)
    (htimeouts : ∀ e ∈ f.fetching, e.1 ≤ now)
    (hloc : locator C n.mgr.coinstate = .ok loc) :
    ∃ c n' f', chainStep C F n f now pick = .ok (n', f') ∧ c ∈ candidates F n f now ∧
      (∃ p, n.peers[c]? = some p ∧
        n'.peers[c]? = some { p with waitingForInventory := true, outbox := p.outbox ++ [.getBlocks loc] }) ∧
      f'.fetching = [(now + F.ibdPeerTimeout, c)] := by
  have hmem : c₀ ∈ candidates F n f now := (candidate_iff F n f now c₀).mpr ⟨p₀, hp, hact, hback⟩
  have hc : candidates F n f now ≠ [] := List.ne_nil_of_mem hmem
  have hpr := slot_free_after_timeouts n f now htimeouts
  obtain ⟨c, hcm, hstep⟩ := request_shape C F n f now pick hd loc hhead hdue hc (by simp [hpr]) hloc
  obtain ⟨p, hpc, -, -⟩ := (candidate_iff F n f now c).mp hcm
  refine ⟨c, _, _, hstep, hcm, ⟨p, hpc, ?_⟩, by simp [hpr]⟩
  have h1 := peers_updatePeer n c (fun p => { p with waitingForInventory := true }) p hpc
  exact peers_send _ c (.getBlocks loc) _ h1

/-- the three ways a step returns normally: nothing to do; the slots are taken (only the pruned list is stored);
a request to a candidate -/
theorem chainStep_ok {n n' : Node} {f f' : FetchSt} {now : Int} {pick : Nat}
    (h : chainStep C F n f now pick = .ok (n', f')) :
    (n' = n ∧ f' = f) ∨
    (n' = n ∧ f' = { f with fetching := pruneFetching n f now }) ∨
    ∃ c loc, c ∈ candidates F n f now ∧ locator C n.mgr.coinstate = .ok loc ∧
      (pruneFetching n f now).length ≤ F.maxIbdPeers ∧
      n' = (n.updatePeer c fun p => { p with waitingForInventory := true }).send c (.getBlocks loc) ∧
      f' = { f with fetching := pruneFetching n f now ++ [(now + F.ibdPeerTimeout, c)] } := by
  revert n' f'
  -- the ends of `chainStep`: 1 no head, 2 not due, 3 nobody to ask, 4 the slots are taken, 5 no locator, 6 a request
  fun_cases chainStep C F n f now pick with
  | case1 | case5 => nofun
  | case2 | case3 => rintro _ _ ⟨⟩; exact .inl ⟨rfl, rfl⟩
  | case4 => rintro _ _ ⟨⟩; exact .inr (.inl ⟨rfl, rfl⟩)
  | case6 _ _ _ _ hne _ hm loc hl =>
    rintro _ _ ⟨⟩
    exact .inr (.inr ⟨_, loc, pick_mem _ (fun e => hne (List.isEmpty_iff.2 e)) pick, hl, Nat.le_of_not_lt hm, rfl, rfl⟩)

/-- a step never touches chain state, pool, write buffer or store, and leaves every other connection as it was -/
theorem step_is_local (n n' : Node) (f f' : FetchSt) (now : Int) (pick : Nat)
    (h : chainStep C F n f now pick = .ok (n', f')) :
    n'.mgr = n.mgr ∧ n'.wbuf = n.wbuf ∧ n'.disk = n.disk ∧ n'.nonce = n.nonce ∧
    f'.startedAt = f.startedAt ∧ f'.lastEmpty = f.lastEmpty ∧
    (n' = n ∨ ∃ c loc, c ∈ candidates F n f now ∧ locator C n.mgr.coinstate = .ok loc ∧
      n' = (n.updatePeer c fun p => { p with waitingForInventory := true }).send c (.getBlocks loc)) := by
  rcases chainStep_ok C F h with ⟨rfl, rfl⟩ | ⟨rfl, rfl⟩ | ⟨c, loc, hc, hl, -, rfl, rfl⟩
  · exact ⟨rfl, rfl, rfl, rfl, rfl, rfl, .inl rfl⟩
  · exact ⟨rfl, rfl, rfl, rfl, rfl, rfl, .inl rfl⟩
  · exact ⟨rfl, rfl, rfl, rfl, rfl, rfl, .inr ⟨c, loc, hc, hl, rfl⟩⟩

/-- the list of outstanding requests never grows beyond the limit plus one -/
theorem fetching_bounded (n n' : Node) (f f' : FetchSt) (now : Int) (pick : Nat)
    (hb : f.fetching.length ≤ F.maxIbdPeers + 1)
    (h : chainStep C F n f now pick = .ok (n', f')) : f'.fetching.length ≤ F.maxIbdPeers + 1 := by
  have hpl : (pruneFetching n f now).length ≤ f.fetching.length := List.length_filter_le _ _
  rcases chainStep_ok C F h with ⟨-, rfl⟩ | ⟨-, rfl⟩ | ⟨c, loc, -, -, hm, -, rfl⟩
  · exact hb
  · exact Nat.le_trans hpl hb
  · simpa using hm

/-- premises are satisfiable and the conclusion is not trivial: production constants, one greeted peer, a stale head -/
example : shouldFetch ⟨1, 60, 300, 60⟩ 1000 0 2000 = true ∧ shouldFetch ⟨1, 60, 300, 60⟩ 1000 0 1201 = false ∧
    shouldFetch ⟨1, 60, 300, 60⟩ 1000 0 1200 = true ∧ candidateOk ⟨1, 60, 300, 60⟩ 100 40 = false ∧
    candidateOk ⟨1, 60, 300, 60⟩ 101 40 = true ∧ stillFetching 59 60 false = true ∧ stillFetching 60 60 false = false ∧
    stillFetching 59 60 true = false := by decide

end C10Fetch
