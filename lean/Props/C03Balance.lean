import Proofs.Balance

/-!
# C03 (continued) — each key's balance equals the sum, and lists exactly the references, of the
unspent outputs paying that key

Stated for the replay of a chain (which is what the node reports at every stored block:
`C03.utxo_is_replay`, `C03.balances_are_replay`). `Sane` is the explicit, decidable side
condition: while the chain is replayed every reference a transaction creates is new to the
unspent set (no transaction id recurs while its outputs are unspent). The other two clauses of
`ChainSane` (DESIGN §4, C03) — spent references present, and distinct — are implied by the replay
succeeding (`removeInputs` fails on an absent reference and erases each one it finds); `saneTxs`
tests the distinctness all the same, and no proof here uses that conjunct.

`FreshVsParent` is a second explicit, decidable side condition, an ADDED hypothesis of
`balance_is_sum`: no transaction of a block creates a reference that is a key of the unspent set
the block started from. `Sane` checks freshness against the *running* set only, whereas
`pkb_apply_block` looks spent outputs up in the *parent's* set: a block that spends `r`, creates
`r` again (same transaction id and index, another output) and spends it a second time passes
`Sane`, replays without error, and leaves balances that disagree with the unspent set. The
counterexample is checked at the end of this file (`balance_is_sum_needs_freshVsParent`).
-/

namespace Model
namespace C03

variable (C : Crypto)

/-- the outputs `(txid, i)` for `i = start, start+1, …` are all absent from `u` -/
def freshOutputs (u : Utxo) (txid : Bytes) : Nat → Nat → Bool
  | 0, _ => true
  | n + 1, start => !(u.contains ⟨txid, start⟩) && freshOutputs u txid n (start + 1)

/-- replaying the transactions of a block (the first one as reward), every created reference is
new at the moment it is created, and a transaction's inputs are pairwise distinct -/
def saneTxs : Utxo → List CTx → Bool → Bool
  | _, [], _ => true
  | u, t :: rest, isCoinbase =>
    freshOutputs (match (if isCoinbase then Except.ok u else removeInputs u t.tx.inputs) with
                  | .ok u₁ => u₁ | .error _ => u) (t.id C) t.tx.outputs.length 0 &&
    (isCoinbase || decide (t.tx.inputs.map (·.ref)).Nodup) &&
    (match utoApplyTx C u t isCoinbase with
     | .ok u' => saneTxs u' rest false
     | .error _ => true)

/-- chain sanity, following the replay -/
def Sane : List Block → Utxo → Bool
  | [], _ => true
  | b :: rest, u =>
    saneTxs C u b.txs true &&
    (match utoApplyBlock C u b with
     | .ok u' => Sane rest u'
     | .error _ => true)

/-- ADDED side condition, transactions of one block: every reference a transaction creates is
absent from `u₀`, the unspent set before the block -/
def freshVsParentTxs (u₀ : Utxo) : List CTx → Bool
  | [] => true
  | t :: rest => freshOutputs u₀ (t.id C) t.tx.outputs.length 0 && freshVsParentTxs u₀ rest

/-- ADDED side condition, following the replay: no transaction of a block creates a reference
that is a key of the unspent set before the block -/
def FreshVsParent : List Block → Utxo → Bool
  | [], _ => true
  | b :: rest, u =>
    freshVsParentTxs C u b.txs &&
    (match utoApplyBlock C u b with
     | .ok u' => FreshVsParent rest u'
     | .error _ => true)

theorem freshOutputs_spec (u : Utxo) (txid : Bytes) (n start : Nat)
    (h : freshOutputs u txid n start = true) (i : Nat) (h1 : start ≤ i) (h2 : i < start + n) :
    u.contains ⟨txid, i⟩ = false := by
  fun_induction freshOutputs u txid n start with
  | case1 => omega
  | case2 n start ih =>
    simp only [Bool.and_eq_true, Bool.not_eq_true'] at h
    by_cases hi : i = start
    · subst hi; exact h.1
    · exact ih h.2 (by omega) (by omega)

theorem saneTxs_cons {u u₁ u' : Utxo} {t : CTx} {rest : List CTx} {cb : Bool}
    (h₁ : (if cb then Except.ok u else removeInputs u t.tx.inputs) = .ok u₁)
    (hu : utoApplyTx C u t cb = .ok u') (hs : saneTxs C u (t :: rest) cb = true) :
    freshOutputs u₁ (t.id C) t.tx.outputs.length 0 = true ∧ saneTxs C u' rest false = true := by
  rw [saneTxs, h₁, hu] at hs
  simp only [Bool.and_eq_true] at hs
  exact ⟨hs.1.1, hs.2⟩

theorem freshVsParentTxs_cons {u₀ : Utxo} {t : CTx} {rest : List CTx} :
    freshVsParentTxs C u₀ (t :: rest) = true ↔
      freshOutputs u₀ (t.id C) t.tx.outputs.length 0 = true ∧ freshVsParentTxs C u₀ rest = true := by
  rw [freshVsParentTxs, Bool.and_eq_true]

/-- the running pair `(u, p)` stays in step although `pkbApplyTxs` looks spent outputs up in the
parent's set `u₀` -/
theorem tracks_txs {u₀ : Utxo} : ∀ (txs : List CTx) {u u' : Utxo} {p p' : PKBalances},
    Bal.Tracks u₀ u p → utoApplyTxs C u txs = .ok u' → pkbApplyTxs C u₀ p txs = .ok p' →
    saneTxs C u txs false = true → freshVsParentTxs C u₀ txs = true → Bal.Tracks u₀ u' p' := by
  intro txs
  induction txs with
  | nil =>
    intro u u' p p' T hu hp _ _
    cases hu; cases hp
    exact T
  | cons t rest ih =>
    intro u u' p p' T hu hp hs hf
    obtain ⟨u₂, hu1, hu2⟩ := (utoApplyTxs_cons_ok C).1 hu
    obtain ⟨p₂, hp1, hp2⟩ := (Bal.pkbApplyTxs_cons_ok C).1 hp
    obtain ⟨u₁, hrem, rfl⟩ := utoApplyTx_false_of_ok C hu1
    obtain ⟨p₁, hsp, rfl⟩ := Bal.pkbApplyTx_false_of_ok C hp1
    obtain ⟨hs1, hs2⟩ := saneTxs_cons C (cb := false) hrem hu1 hs
    obtain ⟨hf1, hf2⟩ := (freshVsParentTxs_cons C).1 hf
    exact ih ((T.inputs _ hrem hsp).outputs _ _ 0 (freshOutputs_spec _ _ _ 0 hs1)
      (freshOutputs_spec _ _ _ 0 hf1)) hu2 hp2 hs2 hf2

theorem tracks_block {u₀ u' : Utxo} {p₀ p' : PKBalances} {b : Block} (T : Bal.Tracks u₀ u₀ p₀)
    (hu : utoApplyBlock C u₀ b = .ok u') (hp : pkbApplyBlock C u₀ p₀ b = .ok p')
    (hs : saneTxs C u₀ b.txs true = true) (hf : freshVsParentTxs C u₀ b.txs = true) :
    Bal.Tracks u' u' p' := by
  obtain ⟨cb, rest, hb, hu2⟩ := utoApplyBlock_cons_of_ok C hu
  obtain ⟨cb', rest', hb', hp2⟩ := Bal.pkbApplyBlock_cons_of_ok C hp
  rw [hb] at hb'
  cases hb'
  rw [hb] at hs hf
  obtain ⟨hs1, hs2⟩ := saneTxs_cons C (cb := true) rfl (Bal.utoApplyTx_true C u₀ cb) hs
  obtain ⟨hf1, hf2⟩ := (freshVsParentTxs_cons C).1 hf
  exact (tracks_txs C rest (T.outputs _ _ 0 (freshOutputs_spec _ _ _ 0 hs1)
    (freshOutputs_spec _ _ _ 0 hf1)) hu2 hp2 hs2 hf2).restart

theorem tracks_replay : ∀ (chain : List Block) {u₀ u : Utxo} {p₀ p : PKBalances},
    Bal.Tracks u₀ u₀ p₀ → replay C chain u₀ p₀ = .ok (u, p) →
    Sane C chain u₀ = true → FreshVsParent C chain u₀ = true → Bal.Tracks u u p := by
  intro chain
  induction chain with
  | nil =>
    intro u₀ u p₀ p T hr _ _
    cases hr
    exact T
  | cons b rest ih =>
    intro u₀ u p₀ p T hr hs hf
    obtain ⟨p', u', hp, hu, hr'⟩ := Bal.replay_cons_of_ok C hr
    unfold Sane at hs
    unfold FreshVsParent at hf
    simp only [hu, Bool.and_eq_true] at hs hf
    exact ih (tracks_block C T hu hp hs.1 hf.1) hr' hs.2 hf.2

/-- each key's balance equals the sum, and lists exactly the references (as a set with
multiplicities), of the unspent outputs paying that key -/
theorem balance_is_sum (chain : List Block) (u : Utxo) (p : PKBalances)
    (hr : replay C chain [] [] = .ok (u, p)) (hs : Sane C chain [] = true)
    -- ADDED HYPOTHESIS: no transaction of a block re-creates a reference that was unspent when
    -- the block started (false without it: `balance_is_sum_needs_freshVsParent` below)
    (hf : FreshVsParent C chain [] = true) (pk : Bytes) :
    (match p.get? pk with
     | some bal => bal.value = utxoValue u pk ∧ bal.refs.Perm (utxoRefs u pk)
     | none => utxoRefs u pk = []) := by
  have T := tracks_replay C chain .nil hr hs hf
  obtain ⟨hv, hrf⟩ := T.agrees pk
  cases hg : p.get? pk with
  | none => rw [hg] at hrf; exact hrf.nil_eq.symm
  | some bal => rw [hg] at hv hrf; exact ⟨hv, hrf⟩

/-- the keys of the unspent set stay pairwise distinct along any replay that succeeds (so "the unspent
output with reference r" is well defined) -/
theorem replay_keys_nodup (chain : List Block) (u : Utxo) (p : PKBalances)
    (hr : replay C chain [] [] = .ok (u, p)) : (u.map (·.1)).Nodup :=
  Bal.nodup_replay C (u₀ := []) List.nodup_nil hr

/-! ## non-vacuity, and necessity of the added hypothesis -/

namespace Demo

def crypto : Crypto := ⟨fun b => b, fun b => b, fun _ b => b, fun _ _ _ => true⟩
def hdr : Header := ⟨⟨0, [], [], 0, [], 0⟩, ⟨[], [], []⟩⟩

/-- reward-only genesis: 10 to key `[7]` -/
def genesis : Block := ⟨hdr, [⟨⟨[], [⟨10, [7]⟩]⟩, some [1]⟩], some [100]⟩

/-- a reward (10 to key `[8]`) and one spend: key `[7]` pays 4 to `[9]` and keeps 6 -/
def block1 : Block := ⟨hdr,
  [⟨⟨[], [⟨10, [8]⟩]⟩, some [2]⟩,
   ⟨⟨[⟨⟨[1], 0⟩, .signable⟩], [⟨4, [9]⟩, ⟨6, [7]⟩]⟩, some [3]⟩], some [101]⟩

/-- spends `([1], 0)`, creates `([1], 0)` again with another output, spends it again -/
def badBlock : Block := ⟨hdr,
  [⟨⟨[], [⟨10, [8]⟩]⟩, some [2]⟩,
   ⟨⟨[⟨⟨[1], 0⟩, .signable⟩], []⟩, some [3]⟩,
   ⟨⟨[], [⟨7, [9]⟩]⟩, some [1]⟩,
   ⟨⟨[⟨⟨[1], 0⟩, .signable⟩], []⟩, some [4]⟩], some [102]⟩

end Demo

open Demo in
/-- non-vacuity: a two-block chain for which the replay succeeds and both side conditions hold -/
example : ∃ u p, replay crypto [genesis, block1] [] [] = .ok (u, p) ∧
    Sane crypto [genesis, block1] [] = true ∧ FreshVsParent crypto [genesis, block1] [] = true ∧
    p.get? [7] = some ⟨6, [⟨[3], 1⟩]⟩ ∧ utxoValue u [7] = 6 :=
  ⟨_, _, rfl, by decide, by decide, by decide, by decide⟩

open Demo in
/-- without `FreshVsParent` the statement of `balance_is_sum` is false: this chain replays
without error and is `Sane`, yet key `[7]` ends with balance `-10` while no unspent output pays
it -/
theorem balance_is_sum_needs_freshVsParent : ∃ u p bal,
    replay crypto [genesis, badBlock] [] [] = .ok (u, p) ∧
    Sane crypto [genesis, badBlock] [] = true ∧
    FreshVsParent crypto [genesis, badBlock] [] = false ∧
    p.get? [7] = some bal ∧ bal.value ≠ utxoValue u [7] :=
  ⟨_, _, _, rfl, by decide, by decide, rfl, by decide⟩

end C03
end Model
