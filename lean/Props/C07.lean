import Model.Types
import Proofs.Codec

/-!
# C07 — canonical identity: one encoding per value, id is the hash of it

`RT c wf` is `∀ a r, wf a → c.dec (c.enc a ++ r) = some (a, r)` and `Canon c wf` is
`∀ bs a r, c.dec bs = some (a, r) → bs = c.enc a ++ r ∧ wf a` (Proofs/Codec.lean, with the laws of the
combinators). Each record codec gets both laws from the combinators it is built from, so these
statements are proved where they stand; the decoders of Python objects (`decTx`, `decBlock`) are then
the codecs followed by caching the hash of the canonical encoding.
-/

namespace Model
namespace C07
open Codec

/-! ## every consensus object survives encode-then-decode, and every accepted byte string
re-encodes to exactly the bytes consumed -/

theorem vlq_roundtrip (n : Nat) (r : Bytes) : decodeVlq (encodeVlq n ++ r) = some (n, r) :=
  decodeVlq_encodeVlq n r

theorem vlq_canonical (bs : Bytes) (n : Nat) (r : Bytes) (h : decodeVlq bs = some (n, r)) :
    bs = encodeVlq n ++ r := encodeVlq_of_decodeVlq h

theorem outref_roundtrip : RT OutRef.codec OutRef.WF :=
  iso_rt (seq_rt (fixed_rt 32) (be_rt 4)) (fun _ => rfl) (fun _ h => h)

theorem outref_canonical : Canon OutRef.codec OutRef.WF :=
  iso_canon (seq_canon (fixed_canon 32) (be_canon 4)) (fun _ => rfl) (fun _ h => h)

theorem signature_roundtrip : RT Sig.codec Sig.WF := by
  intro a r h
  cases a with
  | signable => rfl
  | coinbase ht d =>
    have := seq_rt (be_rt 4) lenBytes1_rt (ht, d) r h
    simp only [seq_enc, List.append_assoc, be_enc, lenBytes1_enc, List.cons_append] at this
    simp [Sig.codec, this]
  | secp s =>
    have := fixed_rt 64 s r h
    simp only [fixed_enc] at this
    simp [Sig.codec, this]

theorem signature_canonical : Canon Sig.codec Sig.WF := by
  intro bs a r h
  -- the empty string needs no case: `Sig.codec.dec [] = none`; then by the tag byte `t`
  match bs, h with
  | t :: rest, h =>
    simp only [Sig.codec] at h
    split at h
    · -- tag 0: the placeholder
      cases h; subst t; exact ⟨rfl, trivial⟩
    split at h
    · -- tag 1: reward data, four bytes of height and a length-prefixed string
      split at h <;> cases h
      rename_i hd
      obtain ⟨rfl, w⟩ := seq_canon (be_canon 4) lenBytes1_canon _ _ _ hd
      subst t
      exact ⟨by simp [Sig.codec], w⟩
    split at h
    · -- tag 2: a 64-byte signature
      split at h <;> cases h
      rename_i hd
      obtain ⟨rfl, w⟩ := fixed_canon 64 _ _ _ hd
      subst t
      exact ⟨rfl, w⟩
    · cases h

theorem publickey_roundtrip : RT pkCodec (fun k => k.length = 64) :=
  iso_rt (seq_rt (const_rt [2]) (fixed_rt 64)) (fun _ => rfl) (fun _ h => ⟨trivial, h⟩)

theorem publickey_canonical : Canon pkCodec (fun k => k.length = 64) :=
  iso_canon (seq_canon (const_canon [2]) (fixed_canon 64)) (fun _ => rfl) (fun _ h => h.2)

theorem input_roundtrip : RT Input.codec Input.WF :=
  iso_rt (seq_rt outref_roundtrip signature_roundtrip) (fun _ => rfl) (fun _ h => h)

theorem input_canonical : Canon Input.codec Input.WF :=
  iso_canon (seq_canon outref_canonical signature_canonical) (fun _ => rfl) (fun _ h => h)

theorem output_roundtrip : RT Output.codec Output.WF :=
  iso_rt (seq_rt (be_rt 8) publickey_roundtrip) (fun _ => rfl) (fun _ h => h)

theorem output_canonical : Canon Output.codec Output.WF :=
  iso_canon (seq_canon (be_canon 8) publickey_canonical) (fun _ => rfl) (fun _ h => h)

theorem transaction_roundtrip : RT Tx.codec Tx.WF :=
  iso_rt (seq_rt (const_rt [0]) (seq_rt (list_rt input_roundtrip) (list_rt output_roundtrip)))
    (fun _ => rfl) (fun _ h => ⟨trivial, h⟩)

theorem transaction_canonical : Canon Tx.codec Tx.WF :=
  iso_canon (seq_canon (const_canon [0]) (seq_canon (list_canon input_canonical)
    (list_canon output_canonical))) (fun _ => rfl) (fun _ h => h.2)

theorem evidence_roundtrip : RT Evidence.codec Evidence.WF :=
  iso_rt (seq_rt (fixed_rt 32) (seq_rt (fixed_rt 32) (fixed_rt 32))) (fun _ => rfl) (fun _ h => h)

theorem evidence_canonical : Canon Evidence.codec Evidence.WF :=
  iso_canon (seq_canon (fixed_canon 32) (seq_canon (fixed_canon 32) (fixed_canon 32))) (fun _ => rfl)
    (fun _ h => h)

theorem summary_roundtrip : RT Summary.codec Summary.WF :=
  iso_rt (seq_rt vlq_rt (seq_rt (fixed_rt 32) (seq_rt (fixed_rt 32) (seq_rt (be_rt 4)
    (seq_rt (fixed_rt 32) (be_rt 4)))))) (fun _ => rfl) (fun _ h => ⟨trivial, h⟩)

theorem summary_canonical : Canon Summary.codec Summary.WF :=
  iso_canon (seq_canon vlq_canon (seq_canon (fixed_canon 32) (seq_canon (fixed_canon 32)
    (seq_canon (be_canon 4) (seq_canon (fixed_canon 32) (be_canon 4)))))) (fun _ => rfl)
    (fun _ h => h.2)

theorem header_roundtrip : RT Header.codec Header.WF :=
  iso_rt (seq_rt (const_rt [0]) (seq_rt summary_roundtrip evidence_roundtrip)) (fun _ => rfl)
    (fun _ h => ⟨trivial, h⟩)

theorem header_canonical : Canon Header.codec Header.WF :=
  iso_canon (seq_canon (const_canon [0]) (seq_canon summary_canonical evidence_canonical))
    (fun _ => rfl) (fun _ h => h.2)

theorem block_roundtrip : RT BlockC.codec BlockC.WF :=
  iso_rt (seq_rt header_roundtrip (list_rt transaction_roundtrip)) (fun _ => rfl) (fun _ h => h)

theorem block_canonical : Canon BlockC.codec BlockC.WF :=
  iso_canon (seq_canon header_canonical (list_canon transaction_canonical)) (fun _ => rfl)
    (fun _ h => h)

/-- a value has a single accepted encoding: two byte strings that decode to the same value
leaving the same rest are the same bytes -/
theorem block_single_encoding (bs bs' : Bytes) (b : BlockC) (r : Bytes)
    (h : BlockC.codec.dec bs = some (b, r)) (h' : BlockC.codec.dec bs' = some (b, r)) : bs = bs' := by
  rw [(block_canonical bs b r h).1, (block_canonical bs' b r h').1]

theorem transaction_single_encoding (bs bs' : Bytes) (t : Tx) (r : Bytes)
    (h : Tx.codec.dec bs = some (t, r)) (h' : Tx.codec.dec bs' = some (t, r)) : bs = bs' := by
  rw [(transaction_canonical bs t r h).1, (transaction_canonical bs' t r h').1]

/-! ## every wire message survives encode-then-decode (ignored version bytes and reserved space
make the wire format non-canonical by design; the property asks for canonicity of consensus objects
only) -/

theorem message_header_roundtrip : RT MsgHeader.codec MsgHeader.WF :=
  iso_rt (seq_rt (skip_rt [0]) (seq_rt (be_rt 4) (seq_rt (be_rt 4) (seq_rt (be_rt 4)
    (seq_rt (be_rt 8) (skip_rt (zeros 32))))))) (fun _ => rfl)
    (fun _ h => ⟨trivial, h.1, h.2.1, h.2.2.1, h.2.2.2, trivial⟩)

theorem hello_roundtrip : RT Hello.codec Hello.WF :=
  iso_rt (seq_rt (skip_rt [0]) (seq_rt (fixed_rt 16) (seq_rt (be_rt 2) (seq_rt (fixed_rt 16)
    (seq_rt (be_rt 2) (seq_rt (be_rt 4) (seq_rt lenBytes1_rt (seq_rt (list_rt (be_rt 1))
    (skip_rt (zeros 256)))))))))) (fun _ => rfl)
    (fun _ h => ⟨trivial, h.1, h.2.1, h.2.2.1, h.2.2.2.1, h.2.2.2.2.1, h.2.2.2.2.2.1,
      h.2.2.2.2.2.2, trivial⟩)

theorem invItem_roundtrip : RT InvItem.codec InvItem.WF :=
  iso_rt (seq_rt (fixed_rt 2) (fixed_rt 32)) (fun _ => rfl) (fun _ h => h)

theorem peerAddr_roundtrip : RT PeerAddr.codec PeerAddr.WF :=
  iso_rt (seq_rt (be_rt 4) (seq_rt (fixed_rt 16) (be_rt 2))) (fun _ => rfl) (fun _ h => h)

theorem getBlocks_roundtrip :
    RT getBlocksCodec (fun x => (∀ s ∈ x.1, s.length = 32) ∧ x.2.length = 32) :=
  iso_rt (seq_rt (const_rt [0]) (seq_rt (list_rt (fixed_rt 32)) (fixed_rt 32))) (fun _ => rfl)
    (fun _ h => ⟨trivial, h⟩)

theorem inventory_roundtrip : RT inventoryCodec (fun l => ∀ i ∈ l, i.WF) :=
  iso_rt (seq_rt (const_rt [0]) (list_rt invItem_roundtrip)) (fun _ => rfl) (fun _ h => ⟨trivial, h⟩)

theorem getData_roundtrip : RT getDataCodec (fun x => x.1.length = 2 ∧ x.2.length = 32) :=
  iso_rt (seq_rt (const_rt [0]) (seq_rt (fixed_rt 2) (fixed_rt 32))) (fun _ => rfl)
    (fun _ h => ⟨trivial, h⟩)

theorem peers_roundtrip : RT peersCodec (fun l => ∀ a ∈ l, a.WF) :=
  iso_rt (seq_rt (const_rt [0]) (list_rt peerAddr_roundtrip)) (fun _ => rfl) (fun _ h => ⟨trivial, h⟩)

theorem dataItem_roundtrip (d : DataItem) (r : Bytes) (h : d.WF) :
    DataItem.dec (d.enc ++ r) = some (d, r) := by
  cases d with
  | block b => simp [DataItem.enc, DataItem.dec, block_roundtrip b r h]
  | header x => simp [DataItem.enc, DataItem.dec, header_roundtrip x r h]
  | tx t => simp [DataItem.enc, DataItem.dec, transaction_roundtrip t r h]

theorem message_roundtrip (m : Msg) (r : Bytes) (h : m.WF) : Msg.dec (m.enc ++ r) = some (m, r) := by
  cases m with
  | hello x => simp [Msg.enc, Msg.dec, hello_roundtrip x r h]
  | getBlocks s t => simp [Msg.enc, Msg.dec, getBlocks_roundtrip (s, t) r h]
  | inventory l => simp [Msg.enc, Msg.dec, inventory_roundtrip l r h]
  | getData t x => simp [Msg.enc, Msg.dec, getData_roundtrip (t, x) r h]
  | data d => simp [Msg.enc, Msg.dec, dataItem_roundtrip d r h]
  | getPeers => simp [Msg.enc, Msg.dec]
  | peers l => simp [Msg.enc, Msg.dec, peers_roundtrip l r h]

theorem frame_roundtrip (hd : MsgHeader) (m : Msg) (h₁ : hd.WF) (h₂ : m.WF) :
    decodeFrame (encodeFrame hd m) = some (hd, m) := by
  have h := message_roundtrip m [] h₂
  rw [List.append_nil] at h
  simp only [decodeFrame, encodeFrame, message_header_roundtrip hd _ h₁, h]

/-! ## the id of an object obtained from bytes or built in memory is the double SHA-256 of its
canonical encoding -/

theorem consumed_append (a r : Bytes) : consumed (a ++ r) r = a := by
  simp [consumed]

/-- a transaction as `decTx` builds it from its content: the hash of the encoding is cached -/
def cachedTx (sha256d : Bytes → Bytes) (t : Tx) : CTx := ⟨t, some (sha256d (encTx t))⟩

/-- accepted bytes are the canonical encoding, so the bytes a decoder consumed are the encoding of
what it returned -/
theorem decTx_eq (sha256d : Bytes → Bytes) (bs : Bytes) :
    decTx sha256d bs = (Tx.codec.dec bs).map fun x => (cachedTx sha256d x.1, x.2) := by
  unfold decTx
  split
  · simp [*]
  · rename_i t r hd
    rw [hd, (transaction_canonical _ _ _ hd).1, consumed_append]; rfl

theorem decTxN_eq (sha256d : Bytes → Bytes) : ∀ (n : Nat) (bs : Bytes),
    decTxN sha256d n bs = (decN Tx.codec n bs).map fun x => (x.1.map (cachedTx sha256d), x.2)
  | 0, _ => rfl
  | n + 1, bs => by
    rw [decTxN, decN, decTx_eq]
    cases Tx.codec.dec bs with
    | none => rfl
    | some x =>
      simp only [Option.map_some, decTxN_eq sha256d n]
      cases decN Tx.codec n x.2 <;> rfl

theorem decBlock_eq (sha256d : Bytes → Bytes) (bs : Bytes) :
    decBlock sha256d bs = (BlockC.codec.dec bs).map fun x =>
      (⟨x.1.header, x.1.txs.map (cachedTx sha256d), some (sha256d (encHeader x.1.header))⟩, x.2) := by
  simp only [decBlock, BlockC.codec, iso, seq, list]
  cases hd : Header.codec.dec bs with
  | none => rfl
  | some x =>
    simp only [(header_canonical _ _ _ hd).1, consumed_append]
    cases decodeVlq x.2 with
    | none => rfl
    | some y =>
      simp only [decTxN_eq]
      cases decN Tx.codec y.1 y.2 <;> rfl

theorem encBlock_eq (b : Block) : encBlock b = encHeader b.header ++ encTxList b.txs := rfl

theorem decTx_encTx (sha256d : Bytes → Bytes) (t : Tx) (r : Bytes) (hw : t.WF) :
    decTx sha256d (encTx t ++ r) = some (cachedTx sha256d t, r) := by
  rw [decTx_eq, encTx, transaction_roundtrip _ _ hw]; rfl

theorem decBlock_encBlock (sha256d : Bytes → Bytes) (b : Block) (r : Bytes) (hw : b.content.WF) :
    decBlock sha256d (encBlock b ++ r) =
      some (⟨b.header, b.txs.map fun t => cachedTx sha256d t.tx, some (sha256d (encHeader b.header))⟩, r) := by
  rw [decBlock_eq, encBlock, block_roundtrip _ _ hw]
  simp [Block.content]

/-- a transaction obtained from bytes: the bytes consumed are its encoding, its cached hash is
the hash of that encoding, hence so is its id -/
theorem decTx_id (C : Crypto) (bs : Bytes) (t : CTx) (r : Bytes)
    (h : decTx C.sha256d bs = some (t, r)) :
    bs = encTx t.tx ++ r ∧ t.tx.WF ∧ t.id C = C.sha256d (encTx t.tx) := by
  rw [decTx_eq] at h
  obtain ⟨⟨t', r'⟩, hd, he⟩ := Option.map_eq_some_iff.mp h
  obtain ⟨rfl, rfl⟩ := Prod.mk.inj he
  exact ⟨(transaction_canonical _ _ _ hd).1, (transaction_canonical _ _ _ hd).2, rfl⟩

/-- a block obtained from bytes (`Block.deserialize`, i.e. from the wire): the bytes consumed
are the canonical encoding of its content; its id is the hash of its header's encoding and the
id of each of its transactions is the hash of that transaction's encoding -/
theorem decBlock_id (C : Crypto) (bs : Bytes) (b : Block) (r : Bytes)
    (h : decBlock C.sha256d bs = some (b, r)) :
    bs = encBlock b ++ r ∧ b.content.WF ∧ b.id C = C.sha256d (encHeader b.header) ∧
    ∀ t ∈ b.txs, t.id C = C.sha256d (encTx t.tx) := by
  rw [decBlock_eq] at h
  obtain ⟨⟨c, r'⟩, hd, he⟩ := Option.map_eq_some_iff.mp h
  obtain ⟨rfl, rfl⟩ := Prod.mk.inj he
  have hc : Block.content ⟨c.header, c.txs.map (cachedTx C.sha256d), some (C.sha256d (encHeader c.header))⟩
      = c := by
    simp [Block.content, cachedTx, Function.comp_def]
  refine ⟨?_, ?_, rfl, ?_⟩
  · rw [encBlock, hc]; exact (block_canonical _ _ _ hd).1
  · rw [hc]; exact (block_canonical _ _ _ hd).2
  · intro t ht
    obtain ⟨t', _, rfl⟩ := List.mem_map.mp ht
    rfl

/-- built in memory (nothing cached): the id is computed from the encoding -/
theorem fresh_block_id (C : Crypto) (h : Header) (txs : List CTx) :
    (Block.fresh h txs).id C = C.sha256d (encHeader h) := rfl

theorem fresh_tx_id (C : Crypto) (t : Tx) : (CTx.fresh t).id C = C.sha256d (encTx t) := rfl

/-- hence two decodings of byte strings with the same content get the same id: the same
content is never known under two ids -/
theorem same_content_same_id (C : Crypto) (bs bs' : Bytes) (b b' : Block) (r r' : Bytes)
    (h : decBlock C.sha256d bs = some (b, r)) (h' : decBlock C.sha256d bs' = some (b', r'))
    (hc : b.header = b'.header) : b.id C = b'.id C := by
  rw [(decBlock_id C _ _ _ h).2.2.1, (decBlock_id C _ _ _ h').2.2.1, hc]

/-- the defect of the pinned tree (D1), as a theorem about the decoder before the `fix:`:
two different byte strings decode to 64 and neither is what the encoder writes for 64. -/
theorem pinned_tree_decoder_not_canonical :
    decodeVlqLenient [0x40] = some (64, []) ∧ decodeVlqLenient [0x80, 0x80, 0x40] = some (64, [])
      ∧ encodeVlq 64 = [0x80, 0x40] := by
  refine ⟨by decide, by decide, ?_⟩
  rw [encodeVlq, (vlqLen_eq_iff 64 2 (by omega)).mpr (by decide)]
  rfl

/-! ## non-vacuity: the hypotheses are met by concrete values -/

example : OutRef.WF ⟨zeros 32, 7⟩ := by simp [OutRef.WF, zeros_length]
example : Sig.WF (.coinbase 5 [1, 2, 3]) := by simp [Sig.WF]
example : decodeVlq [0x80, 0x40] = some (64, []) ∧ decodeVlq [0x40] = none := by
  constructor
  · have := decodeVlq_encodeVlq 64 []
    rwa [pinned_tree_decoder_not_canonical.2.2, List.append_nil] at this
  · -- one byte is read, but 64 is not below 64: the encoder writes two bytes for it
    have : ¬ 1 = vlqLen 64 := fun h => by simpa using (vlqLen_eq_iff 64 1 (by omega)).mp h.symm
    simp [decodeVlq, decodeVlqAux, this]

end C07
end Model
