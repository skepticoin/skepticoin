import Proofs.Walk

/-!
# C10 (continued) — the requester's follow-up loop offers every block it lacks

`handle_inventory_message_received`: after every non-empty inventory the requester asks again with
the locator `[last id of the inventory]` ("go ahead and ask for more inventory now"), and requests the
data of every listed block it does not store. `walk` (defined in `Model/Node.lean`, namespace
`C10Walk`) is that loop against one server state. `ActiveChain`, `Built`/`built`, `chainIds` and the
lemmas `walk_of_reply`, `walk_of_scan_start`, `reply_single`, `scan_own_locator` of this namespace
are in `Proofs/Walk.lean`.

1. `walk_lists_active_chain_from_start` (any chain state with a well-shaped active chain, any locator,
   in terms of the start height the server's scan yields), its special cases
   `walk_lists_active_chain_after_block` (locator `[id of the active-chain block at height k]`) and
   `walk_lists_active_chain_unknown_locator` (nothing known: from height 1), and
   `walk_lists_active_chain_on_built_states`: the same for every state built from a well-formed arrival
   history, with no hypothesis on the shape of the state left (`built_state_active_chain` discharges
   them).
2. `every_missing_block_offered`: a requester strictly behind the server is offered every block of
   the server's active chain that it does not store. `every_missing_block_offered_unless_not_behind`
   is the statement without "strictly behind": the only other outcome is an empty walk while the
   requester's head is at least as high as the server's. The `example` at the end shows that this
   outcome occurs (two tips of equal height), so the hypothesis cannot be dropped.
-/

namespace C10Walk
open Model

variable (C : Crypto) (P : Params)

/-! ## 1. the walk lists the active chain from the start height to the head -/

/-- 1. with enough fuel (one round per height still to list suffices) and a positive batch size, the
walk started with a locator for which the server's scan yields `start` (the height above the first
locator entry on the server's active chain, or 1 when no entry is known) lists the ids of the
server's active chain at the heights `start, start+1, …, head height`, each once, in order. -/
theorem walk_lists_active_chain_from_start (server : CoinState) (index : Map Nat Block) (hd : Block)
    (fuel start : Nat) (loc : List Bytes)
    (hidx : server.current.bind server.byHeightAt.get? = some index) (hhd : server.head = some hd)
    (hinv : 0 < P.inventorySize)
    -- ADDED HYPOTHESIS: the head's by-height index holds a block at every height up to the head's
    -- (otherwise the reply raises `KeyError` or the list has gaps)
    (hfull : ∀ h, h ≤ hd.height → ∃ blk, index.get? h = some blk)
    -- ADDED HYPOTHESIS: and none above it (otherwise the round asking with the head's own id may
    -- fall through to the `start = 1` fallback and the walk starts over)
    (htop : ∀ h, hd.height < h → index.get? h = none)
    -- ADDED HYPOTHESIS: every block of the index is stored under its id and carries the height it is
    -- indexed at (the follow-up round looks the last id up in `block_by_hash` and uses its height)
    (hstored : ∀ h blk, index.get? h = some blk →
      server.blocks.get? (blk.id C) = some blk ∧ blk.height = h)
    -- ADDED HYPOTHESIS: each block of the index names the one below it as its parent (the scan
    -- accepts a locator entry only if the next block's `previous_block_hash` is that entry)
    (hlink : ∀ h blk nxt, index.get? h = some blk → index.get? (h + 1) = some nxt →
      nxt.prev = blk.id C)
    (hscan : inventoryReply.scan server index loc = some (some start))
    (hfuel : hd.height + 1 - start ≤ fuel) :
    ∃ ids, walk C P server fuel loc = .ok ids ∧ ids.length = hd.height + 1 - start ∧
      ∀ k (hk : k < ids.length), ∃ blk, index.get? (start + k) = some blk ∧ ids[k] = blk.id C := by
  have W : ActiveChain C server index hd := ⟨hidx, hhd, hfull, htop, hstored, hlink⟩
  exact ⟨_, walk_of_scan_start C P W hinv fuel start loc hscan (by omega), W.chainIds_spec C start (Nat.le_refl _)⟩

/-- the same, for the locator `[x]` of every follow-up round (and of a requester whose head is on the
server's active chain): `x` the id of the server's active-chain block at height `k` -/
theorem walk_lists_active_chain_after_block (server : CoinState) (index : Map Nat Block) (hd : Block)
    (fuel k : Nat) (x : Block)
    (hidx : server.current.bind server.byHeightAt.get? = some index) (hhd : server.head = some hd)
    (hinv : 0 < P.inventorySize)
    -- ADDED HYPOTHESES: as in `walk_lists_active_chain_from_start`
    (hfull : ∀ h, h ≤ hd.height → ∃ blk, index.get? h = some blk)
    (htop : ∀ h, hd.height < h → index.get? h = none)
    (hstored : ∀ h blk, index.get? h = some blk →
      server.blocks.get? (blk.id C) = some blk ∧ blk.height = h)
    (hlink : ∀ h blk nxt, index.get? h = some blk → index.get? (h + 1) = some nxt →
      nxt.prev = blk.id C)
    (hx : index.get? k = some x) (hfuel : hd.height - k ≤ fuel) :
    ∃ ids, walk C P server fuel [x.id C] = .ok ids ∧ ids.length = hd.height - k ∧
      ∀ i (hi : i < ids.length), ∃ blk, index.get? (k + 1 + i) = some blk ∧ ids[i] = blk.id C := by
  have W : ActiveChain C server index hd := ⟨hidx, hhd, hfull, htop, hstored, hlink⟩
  have h := W.chainIds_spec C (k + 1) (Nat.le_refl _)
  rw [Nat.add_sub_add_right] at h
  exact ⟨_, walk_of_reply C P W hinv fuel (k + 1) _ (reply_single C P W hx) (by omega), h⟩

/-- the same, for a locator none of whose entries the server knows: everything above genesis -/
theorem walk_lists_active_chain_unknown_locator (server : CoinState) (index : Map Nat Block)
    (hd : Block) (fuel : Nat) (loc : List Bytes)
    (hidx : server.current.bind server.byHeightAt.get? = some index) (hhd : server.head = some hd)
    (hinv : 0 < P.inventorySize)
    -- ADDED HYPOTHESES: as in `walk_lists_active_chain_from_start`
    (hfull : ∀ h, h ≤ hd.height → ∃ blk, index.get? h = some blk)
    (htop : ∀ h, hd.height < h → index.get? h = none)
    (hstored : ∀ h blk, index.get? h = some blk →
      server.blocks.get? (blk.id C) = some blk ∧ blk.height = h)
    (hlink : ∀ h blk nxt, index.get? h = some blk → index.get? (h + 1) = some nxt →
      nxt.prev = blk.id C)
    (hunk : ∀ x ∈ loc, server.blocks.get? x = none) (hfuel : hd.height ≤ fuel) :
    ∃ ids, walk C P server fuel loc = .ok ids ∧ ids.length = hd.height ∧
      ∀ k (hk : k < ids.length), ∃ blk, index.get? (1 + k) = some blk ∧ ids[k] = blk.id C := by
  have h := walk_lists_active_chain_from_start C P server index hd fuel 1 loc hidx hhd hinv hfull htop
    hstored hlink (inventoryReply.scan_unknown server index loc hunk) (by omega)
  simpa using h

/-! ### the added hypotheses hold for every state built from a well-formed arrival history -/

/-- every state built by `add_block_no_validation` from a well-formed arrival history has a head and
a by-height index of the head … -/
theorem built_state_has_head (bs : List Block) (s : CoinState) (hwf : WFArrivals C bs)
    (hf : foldBlocks C .empty bs = .ok s) :
    ∃ index hd, s.current.bind s.byHeightAt.get? = some index ∧ s.head = some hd := by
  obtain ⟨index, hd, B⟩ := built_exists C hwf hf
  exact ⟨index, hd, B.chain.cur, B.chain.head⟩

/-- … and they satisfy the four added hypotheses of `walk_lists_active_chain_from_start` -/
theorem built_state_active_chain (bs : List Block) (s : CoinState) (hwf : WFArrivals C bs)
    (hf : foldBlocks C .empty bs = .ok s) (index : Map Nat Block) (hd : Block)
    (hidx : s.current.bind s.byHeightAt.get? = some index) (hhd : s.head = some hd) :
    (∀ h, h ≤ hd.height → ∃ blk, index.get? h = some blk) ∧
    (∀ h, hd.height < h → index.get? h = none) ∧
    (∀ h blk, index.get? h = some blk → s.blocks.get? (blk.id C) = some blk ∧ blk.height = h) ∧
    (∀ h blk nxt, index.get? h = some blk → index.get? (h + 1) = some nxt → nxt.prev = blk.id C) := by
  have B := (built C hwf hf hidx hhd).chain
  exact ⟨B.full, B.top, B.stored, B.link⟩

/-- 1, for built states: no hypothesis on the shape of the server's state is left -/
theorem walk_lists_active_chain_on_built_states (bs : List Block) (server : CoinState)
    (hwf : WFArrivals C bs) (hf : foldBlocks C .empty bs = .ok server)
    (index : Map Nat Block) (hd : Block) (fuel start : Nat) (loc : List Bytes)
    (hidx : server.current.bind server.byHeightAt.get? = some index) (hhd : server.head = some hd)
    (hinv : 0 < P.inventorySize)
    (hscan : inventoryReply.scan server index loc = some (some start))
    (hfuel : hd.height + 1 - start ≤ fuel) :
    ∃ ids, walk C P server fuel loc = .ok ids ∧ ids.length = hd.height + 1 - start ∧
      ∀ k (hk : k < ids.length), ∃ blk, index.get? (start + k) = some blk ∧ ids[k] = blk.id C := by
  obtain ⟨h1, h2, h3, h4⟩ := built_state_active_chain C bs server hwf hf index hd hidx hhd
  exact walk_lists_active_chain_from_start C P server index hd fuel start loc hidx hhd hinv h1 h2 h3 h4
    hscan hfuel

/-- the follow-up rounds on built states: after the id of the active-chain block at height `k`,
everything above `k` -/
theorem walk_lists_active_chain_after_block_on_built_states (bs : List Block) (server : CoinState)
    (hwf : WFArrivals C bs) (hf : foldBlocks C .empty bs = .ok server)
    (index : Map Nat Block) (hd : Block) (fuel k : Nat) (x : Block)
    (hidx : server.current.bind server.byHeightAt.get? = some index) (hhd : server.head = some hd)
    (hinv : 0 < P.inventorySize) (hx : index.get? k = some x) (hfuel : hd.height - k ≤ fuel) :
    ∃ ids, walk C P server fuel [x.id C] = .ok ids ∧ ids.length = hd.height - k ∧
      ∀ i (hi : i < ids.length), ∃ blk, index.get? (k + 1 + i) = some blk ∧ ids[i] = blk.id C := by
  obtain ⟨h1, h2, h3, h4⟩ := built_state_active_chain C bs server hwf hf index hd hidx hhd
  exact walk_lists_active_chain_after_block C P server index hd fuel k x hidx hhd hinv h1 h2 h3 h4
    hx hfuel

/-! ## 2. every block the requester lacks is offered -/

/-- a requester built from a well-formed history can always build its locator -/
theorem locator_ok_on_built_states (rs : List Block) (req : CoinState) (hwf : WFArrivals C rs)
    (hf : foldBlocks C .empty rs = .ok req) : ∃ loc, locator C req = .ok loc := by
  obtain ⟨rindex, rhd, B⟩ := built_exists C hwf hf
  exact ⟨_, locator_built_ok C B⟩

/-- the general form of 2: requester and server built from well-formed histories with the same first
(genesis) block; the walk with the requester's locator succeeds, and either every block of the
server's active chain is listed or already stored by the requester under that id, or the walk lists
nothing and the requester's head is at least as high as the server's (the scan hit a locator entry
the server stores at its own head height: "we have no new info") -/
theorem every_missing_block_offered_unless_not_behind (rs ss : List Block) (req srv : CoinState)
    (hwfr : WFArrivals C rs) (hfr : foldBlocks C .empty rs = .ok req)
    (hwfs : WFArrivals C ss) (hfs : foldBlocks C .empty ss = .ok srv)
    (hgen : rs.head? = ss.head?)
    -- ADDED HYPOTHESIS: no id collision *between* the two histories (inside one history
    -- `WFArrivals` already demands distinct ids): blocks of the two histories with the same id have
    -- the same parent reference and height (in particular if they are the same block). Ids are
    -- cached hashes of arbitrary origin in the model, so this cannot be a `Collision C.sha256d`
    -- disjunct.
    (hcompat : ∀ a ∈ rs, ∀ b ∈ ss, a.id C = b.id C → a.prev = b.prev ∧ a.height = b.height)
    (index : Map Nat Block) (hd rhd : Block)
    (hidx : srv.current.bind srv.byHeightAt.get? = some index) (hhd : srv.head = some hd)
    (hrhd : req.head = some rhd)
    (hinv : 0 < P.inventorySize) (fuel : Nat) (hfuel : hd.height ≤ fuel)
    (loc : List Bytes) (hloc : locator C req = .ok loc) :
    ∃ ids, walk C P srv fuel loc = .ok ids ∧
      ((∀ h blk, h ≤ hd.height → index.get? h = some blk →
          blk.id C ∈ ids ∨ (req.blocks.get? (blk.id C)).isSome = true) ∨
       (ids = [] ∧ hd.height ≤ rhd.height)) := by
  have Bs := built C hwfs hfs hidx hhd
  obtain ⟨rindex, rhd', Br⟩ := built_exists C hwfr hfr
  obtain rfl : rhd' = rhd := Option.some.inj (Br.chain.head.symm.trans hrhd)
  rcases scan_own_locator C Bs Br hcompat hgen loc hloc with ⟨start, h1, hs, hag⟩ | ⟨hs, hle⟩
  · refine ⟨_, walk_of_scan_start C P Bs.chain hinv fuel start loc hs (by omega), .inl ?_⟩
    intro h blk hh hg
    by_cases hlt : h < start
    · -- below the start height the requester's active chain holds a block with the same id
      obtain ⟨a, b, ha, hb, hab⟩ := hag h hlt
      rw [hg] at ha
      cases ha
      rw [hab, (Br.chain.stored h b hb).1]
      exact .inr rfl
    · rw [← idAt_of_some C hg]
      exact .inl (mem_chainIds C index start _ h (by omega) (by omega))
  · exact ⟨[], walk_of_scan_none C P Bs.chain fuel hs, .inr ⟨rfl, hle⟩⟩

/-- 2. for a requester strictly behind the server (its head is lower than the server's), whose
locator was built (by `Model.locator`) from its own well-formed state sharing the genesis block with
the server: with enough fuel the walk succeeds, and every block of the server's active chain is
either listed by the walk or already stored by the requester (under that id). -/
theorem every_missing_block_offered (rs ss : List Block) (req srv : CoinState)
    (hwfr : WFArrivals C rs) (hfr : foldBlocks C .empty rs = .ok req)
    (hwfs : WFArrivals C ss) (hfs : foldBlocks C .empty ss = .ok srv)
    (hgen : rs.head? = ss.head?)
    -- ADDED HYPOTHESIS: no id collision between the two histories (see
    -- `every_missing_block_offered_unless_not_behind`)
    (hcompat : ∀ a ∈ rs, ∀ b ∈ ss, a.id C = b.id C → a.prev = b.prev ∧ a.height = b.height)
    (index : Map Nat Block) (hd rhd : Block)
    (hidx : srv.current.bind srv.byHeightAt.get? = some index) (hhd : srv.head = some hd)
    (hrhd : req.head = some rhd)
    -- ADDED HYPOTHESIS: the requester is strictly behind. Without it the statement is false: a
    -- requester whose head is a stored side-branch tip of the server, as high as the server's head,
    -- gets an empty inventory ("we have no new info") and is never offered the server's head — the
    -- last `example` of this file.
    (hbehind : rhd.height < hd.height)
    (hinv : 0 < P.inventorySize) (fuel : Nat) (hfuel : hd.height ≤ fuel)
    (loc : List Bytes) (hloc : locator C req = .ok loc) :
    ∃ ids, walk C P srv fuel loc = .ok ids ∧
      ∀ h blk, h ≤ hd.height → index.get? h = some blk →
        blk.id C ∈ ids ∨ (req.blocks.get? (blk.id C)).isSome = true := by
  obtain ⟨ids, hw, h⟩ := every_missing_block_offered_unless_not_behind C P rs ss req srv hwfr hfr
    hwfs hfs hgen hcompat index hd rhd hidx hhd hrhd hinv fuel hfuel loc hloc
  rcases h with h | ⟨-, h⟩
  · exact ⟨ids, hw, h⟩
  · omega

/-! ## non-vacuity -/

section Examples

-- `Props/Toy.lean` declares other blocks under the names `exCb`, `exG`, `exA`, `exA2` in the namespace `C10Converge` (with a
-- coinbase input and a target, so that they pass the by-itself validation); the ones here do not pass it and serve the
-- ledger-level examples of this file and of `Props/C10Sync.lean`
/-- a coinbase-only body, a genesis block, two children of it and a grandchild; ids are the cached
hashes `[1]`, `[2]`, `[3]`, `[4]` (as for blocks read from the wire or the block store) -/
def exCb : CTx := ⟨⟨[], [⟨10, [5]⟩]⟩, some [7]⟩
def exG : Block := ⟨⟨⟨0, zeros 32, [], 0, [], 0⟩, ⟨[], [], []⟩⟩, [exCb], some [1]⟩
def exA : Block := ⟨⟨⟨1, [1], [], 0, [], 0⟩, ⟨[], [], []⟩⟩, [exCb], some [2]⟩
def exB : Block := ⟨⟨⟨1, [1], [], 1, [], 0⟩, ⟨[], [], []⟩⟩, [exCb], some [3]⟩
def exA2 : Block := ⟨⟨⟨2, [2], [], 0, [], 0⟩, ⟨[], [], []⟩⟩, [exCb], some [4]⟩

theorem exWF_G : WFArrivals C [exG] := .of_decide C rfl
theorem exWF_GAA : WFArrivals C [exG, exA, exA2] := .of_decide C rfl
theorem exWF_GAB : WFArrivals C [exG, exA, exB] := .of_decide C rfl
theorem exWF_GB : WFArrivals C [exG, exB] := .of_decide C rfl

/-- the hypotheses of 1 are satisfiable: the three-block chain `G ← A ← A2` is a built state, a
locator holding only the genesis id makes the scan yield `start = 1`, and the walk (batch size 1,
three rounds) lists `A` and `A2` in order -/
example : ∃ (server : CoinState) (index : Map Nat Block) (hd : Block),
    WFArrivals C [exG, exA, exA2] ∧ foldBlocks C .empty [exG, exA, exA2] = .ok server ∧
    server.current.bind server.byHeightAt.get? = some index ∧ server.head = some hd ∧
    hd.height = 2 ∧ inventoryReply.scan server index [[1]] = some (some 1) ∧
    walk C { P with inventorySize := 1 } server 2 [[1]] = .ok [[2], [4]] :=
  ⟨_, _, _, exWF_GAA C, rfl, rfl, rfl, rfl, rfl, rfl⟩

/-- the hypotheses of 2 are satisfiable (requester `G`, server `G ← A ← A2`; the requester is
offered `A` and `A2`) -/
example : ∃ (req srv : CoinState) (index : Map Nat Block) (hd rhd : Block) (loc : List Bytes),
    WFArrivals C [exG] ∧ foldBlocks C .empty [exG] = .ok req ∧
    WFArrivals C [exG, exA, exA2] ∧ foldBlocks C .empty [exG, exA, exA2] = .ok srv ∧
    [exG].head? = [exG, exA, exA2].head? ∧
    (∀ a ∈ [exG], ∀ b ∈ [exG, exA, exA2], a.id C = b.id C → a.prev = b.prev ∧ a.height = b.height) ∧
    srv.current.bind srv.byHeightAt.get? = some index ∧ srv.head = some hd ∧ req.head = some rhd ∧
    rhd.height < hd.height ∧ locator C req = .ok loc ∧
    walk C { P with inventorySize := 1 } srv 2 loc = .ok [[2], [4]] := by
  -- the cached ids `[1]`, `[2]`, `[4]` differ
  exact ⟨_, _, _, _, _, _, exWF_G C, rfl, exWF_GAA C, rfl, rfl, by simp [Block.id, exG, exA, exA2], rfl, rfl, rfl,
    by decide, rfl, rfl⟩

/-- "strictly behind" cannot be dropped from 2: the server saw `G, A, B` (head `A`, the first of the
two tips of height 1), the requester saw `G, B`. Every other hypothesis of
`every_missing_block_offered` holds, the requester's locator is `[id B, id G]`, the server stores `B`
at its own head height and answers with an empty inventory; the walk lists nothing although the
requester does not store the server's head `A`. -/
example : ∃ (req srv : CoinState) (index : Map Nat Block) (hd rhd : Block) (loc : List Bytes),
    WFArrivals C [exG, exB] ∧ foldBlocks C .empty [exG, exB] = .ok req ∧
    WFArrivals C [exG, exA, exB] ∧ foldBlocks C .empty [exG, exA, exB] = .ok srv ∧
    [exG, exB].head? = [exG, exA, exB].head? ∧
    (∀ a ∈ [exG, exB], ∀ b ∈ [exG, exA, exB], a.id C = b.id C →
      a.prev = b.prev ∧ a.height = b.height) ∧
    srv.current.bind srv.byHeightAt.get? = some index ∧ srv.head = some hd ∧ req.head = some rhd ∧
    rhd.height = hd.height ∧ locator C req = .ok loc ∧
    (∀ fuel, walk C P srv fuel loc = .ok []) ∧
    index.get? 1 = some hd ∧ req.blocks.get? (hd.id C) = none := by
  refine ⟨_, _, _, _, _, _, exWF_GB C, rfl, exWF_GAB C, rfl, rfl, by simp [Block.id, exG, exA, exB], rfl, rfl, rfl,
    rfl, rfl, fun fuel => ?_, rfl, rfl⟩
  cases fuel <;> rfl

end Examples

end C10Walk
