import Proofs.WalletLemmas
import Proofs.FS

/-!
# C15 — wallet keys: faithful file, no key handed out twice, atomic save
-/

namespace Model
namespace C15

/-- hex text round trip -/
theorem ofHex_toHex (bs : Bytes) : ofHexChars (toHex bs).toList = some bs :=
  ofHexChars_toHex bs

/-- saving and loading reproduces key pairs, unused keys and annotations exactly (the record of
outputs used by this wallet is, by design, not saved) -/
theorem load_dump (w : Wallet) : Wallet.load w.dump = some { w with spent := [] } :=
  Wallet.load_dump w

/-- the wallet invariant: unused keys are distinct, none of them is annotated (handed out), and
annotated and unused keys are wallet keys -/
structure Inv (w : Wallet) : Prop where
  unusedNodup : w.unused.Nodup
  annotNodup : (w.annotations.map (·.1)).Nodup
  disjoint : ∀ k ∈ w.unused, k ∉ w.annotations.map (·.1)
  unusedKeys : ∀ k ∈ w.unused, k ∈ w.keys
  annotKeys : ∀ k ∈ w.annotations.map (·.1), k ∈ w.keys
  allCovered : ∀ k ∈ w.keys, k ∈ w.unused ∨ k ∈ w.annotations.map (·.1)
  keysNodup : w.keys.Nodup

theorem inv_iff (w : Wallet) :
    Inv w ↔ w.keys.Nodup ∧ (w.unused ++ w.annotations.map (·.1)).Perm w.keys := by
  constructor
  · rintro ⟨h1, h2, h3, h4, h5, h6, h7⟩
    have hnd : (w.unused ++ w.annotations.map (·.1)).Nodup :=
      List.nodup_append.2 ⟨h1, h2, fun a ha b hb e => h3 a ha (e ▸ hb)⟩
    exact ⟨h7, (List.perm_ext_iff_of_nodup hnd h7).2 fun k =>
      ⟨fun hk => (List.mem_append.1 hk).elim (h4 k) (h5 k), fun hk => List.mem_append.2 (h6 k hk)⟩⟩
  · rintro ⟨hk, hp⟩
    obtain ⟨a, b, c⟩ := List.nodup_append.1 (hp.nodup_iff.2 hk)
    exact ⟨a, b, fun k hu ha => c k hu k ha rfl, fun k hu => hp.mem_iff.1 (List.mem_append_left _ hu),
      fun k ha => hp.mem_iff.1 (List.mem_append_right _ ha), fun k hk' => List.mem_append.1 (hp.mem_iff.2 hk'), hk⟩

theorem empty_inv : Inv Wallet.empty :=
  (inv_iff _).2 ⟨List.nodup_nil, List.Perm.refl _⟩

theorem addKey_inv (w : Wallet) (pk sk : Bytes) (h : Inv w) (hfresh : pk ∉ w.keys) : Inv (w.addKey pk sk) := by
  obtain ⟨hk, hp⟩ := (inv_iff w).1 h
  have hkeys : (w.addKey pk sk).keys = w.keys ++ [pk] := by
    simp only [Wallet.addKey, Wallet.keys, List.map_append, filter_fst_ne_eq_self _ _ hfresh, List.map_cons, List.map_nil]
  rw [inv_iff, hkeys]
  refine ⟨List.nodup_append.2 ⟨hk, by simp, fun a ha b hb e => hfresh (by simp_all)⟩, ?_⟩
  show ((w.unused ++ [pk]) ++ w.annotations.map (·.1)).Perm _
  rw [List.append_assoc]
  -- `unused ++ ([pk] ++ annotated)` is a rearrangement of `(unused ++ annotated) ++ [pk]`, and that of `keys ++ [pk]`
  exact ((List.perm_append_comm.append_left _).trans (by rw [← List.append_assoc])).trans (hp.append_right _)

/-- a key handed out while unused keys remain was not handed out before (it carries no
annotation), is marked as handed out afterwards and is no longer among the unused keys -/
theorem handOut_fresh (w w' : Wallet) (a : String) (c : Nat) (pk : Bytes) (h : Inv w)
    (hne : w.unused ≠ []) (ho : w.handOut a c = some (w', pk)) :
    pk ∉ w.annotations.map (·.1) ∧ pk ∈ w'.annotations.map (·.1) ∧ pk ∉ w'.unused ∧ Inv w' := by
  obtain ⟨hk, hp⟩ := (inv_iff w).1 h
  obtain ⟨ys, q, hys, he⟩ := w.handOut_of_unused a c hne
  rw [he] at ho
  cases ho
  have hqa : pk ∉ w.annotations.map (·.1) := h.disjoint pk (by simp [hys])
  have hqy : pk ∉ ys := fun hm =>
    (List.nodup_append.1 (hys ▸ h.unusedNodup)).2.2 pk hm pk (List.mem_singleton_self pk) rfl
  refine ⟨hqa, ?_, hqy, (inv_iff _).2 ⟨hk, ?_⟩⟩ <;>
    simp only [hys, filter_fst_ne_eq_self _ _ hqa, List.map_append, List.map_cons, List.map_nil] at hp ⊢
  · simp
  · -- `ys ++ (annotated ++ [pk])` is a rearrangement of `(ys ++ [pk]) ++ annotated`, the old `unused ++ annotated`
    exact ((List.perm_append_comm.append_left _).trans (by rw [← List.append_assoc])).trans hp

theorem restore_inv (w w' : Wallet) (pk : Bytes) (h : Inv w) (hr : w.restore pk = some w') :
    Inv w' ∧ pk ∈ w'.unused ∧ pk ∉ w'.annotations.map (·.1) := by
  obtain ⟨hk, hp⟩ := (inv_iff w).1 h
  obtain ⟨hany, rfl⟩ := (w.restore_eq_some w' pk).1 hr
  refine ⟨(inv_iff _).2 ⟨hk, ?_⟩, by simp, fun hm => ((mem_map_fst_filter_ne _ _ _).1 hm).2 rfl⟩
  rw [List.append_assoc]
  -- the annotations are a `Map` from keys to notes, and filtering `pk` out is `Map.erase`
  obtain ⟨a, ha⟩ := (Map.contains_eq_true_iff _ _).1 ((Map.mem_keys_iff_contains _ _).1 hany)
  exact (((Map.perm_erase _ pk a h.annotNodup ha).map (·.1)).symm.append_left _).trans hp

/-- operations on a wallet's keys -/
inductive KeyOp where
  | handOut (annotation : String) (choice : Nat)
  | restore (pk : Bytes)
  | saveLoad
  | addKey (pk sk : Bytes)

end C15

/-- newest-first log of hand-outs (`true`) and restores (`false`): before every hand-out of a
key, the most recent earlier entry about that key, if any, is not a hand-out -/
def LogGood : List (Bool × Bytes) → Prop
  | [] => True
  | e :: older => (e.1 = true → older.find? (·.2 = e.2) ≠ some (true, e.2)) ∧ LogGood older

theorem LogGood.suffix : ∀ {a b : List (Bool × Bytes)}, LogGood (a ++ b) → LogGood b
  | [], _, h => h
  | _ :: _, _, h => LogGood.suffix h.2

theorem find_first_handout (pk : Bytes) (post : List (Bool × Bytes)) :
    ∀ mid : List (Bool × Bytes), (false, pk) ∉ mid →
      (mid ++ (true, pk) :: post).find? (·.2 = pk) = some (true, pk)
  | [], _ => by simp
  | (b, k) :: mid, h => by
    simp only [List.mem_cons, not_or] at h
    by_cases hk : k = pk
    · subst hk
      cases b with
      | true => simp
      | false => exact absurd rfl h.1
    · simp only [List.cons_append, List.find?_cons, hk, decide_false]
      exact find_first_handout pk post mid h.2

theorem LogGood.restore_between {log pre mid post : List (Bool × Bytes)} {pk : Bytes} (h : LogGood log)
    (hlog : log = pre ++ (true, pk) :: mid ++ (true, pk) :: post) : (false, pk) ∈ mid := by
  subst hlog
  rw [List.append_assoc] at h
  have h' := h.suffix.1 rfl
  apply Classical.byContradiction
  intro hn
  exact h' (find_first_handout pk post mid hn)

namespace C15

/-- run a sequence of operations; returns the final wallet and, newest first, the log of keys
handed out while unused keys remained (`true`) and of keys restored (`false`) -/
def runOps : Wallet → List (Bool × Bytes) → List KeyOp → Wallet × List (Bool × Bytes)
  | w, log, [] => (w, log)
  | w, log, .handOut a c :: rest =>
    match w.handOut a c with
    | some (w', pk) => runOps w' (if w.unused ≠ [] then (true, pk) :: log else log) rest
    | none => runOps w log rest
  | w, log, .restore pk :: rest =>
    match w.restore pk with
    | some w' => runOps w' ((false, pk) :: log) rest
    | none => runOps w log rest
  | w, log, .saveLoad :: rest =>
    match Wallet.load w.dump with
    | some w' => runOps w' log rest
    | none => runOps w log rest
  | w, log, .addKey pk sk :: rest =>
    if pk ∈ w.keys then runOps w log rest else runOps (w.addKey pk sk) log rest

/-- the induction carries, besides the two invariants, that a key whose most recent log entry (the log is newest first) is a
hand-out still carries its annotation -/
theorem runOps_logGood (ops : List KeyOp) (w : Wallet) (log : List (Bool × Bytes)) (hinv : Inv w) (hg : LogGood log)
    (hann : ∀ k, log.find? (·.2 = k) = some (true, k) → k ∈ w.annotations.map (·.1)) :
    LogGood (runOps w log ops).2 := by
  -- `LogGood`: for every hand-out `e` in the log, the most recent earlier entry about the same key is not a hand-out.
  -- The cases are the ends of `runOps`: 2 a hand-out, 4 a restore, 6 a reload, 9 a new key, each with the equation saying that it
  -- was carried out (`ho`, `hr`, `hl`, `hfresh`); 3, 5, 7, 8: it was not, and nothing changes.
  fun_induction runOps w log ops with
  | case1 => exact hg
  | case2 w log a c rest w' pk ho ih =>
    by_cases hne : w.unused ≠ []
    · rw [if_pos hne] at ih ⊢
      obtain ⟨hf1, hf2, _, hinv'⟩ := handOut_fresh w w' a c pk hinv hne ho
      obtain ⟨ys, q, _, he⟩ := w.handOut_of_unused a c hne
      rw [he] at ho
      cases ho
      -- were the most recent earlier entry about `pk` a hand-out, `pk` would still be annotated (`hann`); it is not (`hf1`)
      refine ih hinv' ⟨fun _ hfind => hf1 (hann pk hfind), hg⟩ fun k hfind => ?_
      by_cases hk : pk = k
      · subst hk; exact hf2
      · simp only [List.find?_cons, hk, decide_false] at hfind
        simp only [List.map_append, List.mem_append, mem_map_fst_filter_ne]
        exact Or.inl ⟨hann k hfind, fun e => hk e.symm⟩
    · -- with no unused key left the hand-out re-uses a key and returns the wallet as it is: `w' = w`, nothing is logged
      rw [if_neg hne] at ih ⊢
      cases Wallet.handOut_of_no_unused (Classical.not_not.mp hne) ho
      exact ih hinv hg hann
  | case4 w log pk rest w' hr ih =>
    obtain ⟨hinv', _, _⟩ := restore_inv w w' pk hinv hr
    obtain ⟨_, rfl⟩ := (w.restore_eq_some w' pk).1 hr
    refine ih hinv' ⟨fun h => by simp at h, hg⟩ fun k hfind => ?_
    by_cases hk : pk = k
    · subst hk
      simp at hfind
    · simp only [List.find?_cons, hk, decide_false] at hfind
      exact (mem_map_fst_filter_ne _ _ _).2 ⟨hann k hfind, fun e => hk e.symm⟩
  | case6 w log rest w' hl ih =>
    rw [load_dump] at hl
    cases hl
    -- the invariant does not speak of `spent`, the one field a reload changes
    exact ih ((inv_iff _).2 ((inv_iff w).1 hinv)) hg hann
  | case9 w log pk sk rest hfresh ih => exact ih (addKey_inv w pk sk hinv hfresh) hg hann
  | case3 | case5 | case7 | case8 => rename_i ih; exact ih hinv hg hann

/-- no key is handed out twice while unused keys remain — also across save and load — unless it
was restored in between: in the log, between two hand-outs of the same key there is a restore
of that key -/
theorem no_double_handout (ops : List KeyOp) (w₀ : Wallet) (h₀ : Inv w₀)
    (pre mid post : List (Bool × Bytes)) (pk : Bytes)
    (hlog : (runOps w₀ [] ops).2 = pre ++ (true, pk) :: mid ++ (true, pk) :: post) :
    (false, pk) ∈ mid := by
  have hg := runOps_logGood ops w₀ [] h₀ trivial (by intro k h; simp at h)
  exact hg.restore_between hlog

/-- the reported balance is the total over the wallet's keys of what the ledger holds for each -/
theorem balance_spec (w : Wallet) (bal : PKBalances) (h : Inv w) :
    w.balance bal = (w.keys.map (pkValue bal)).sum :=
  -- `balance` sums over the annotated keys followed by the unused ones, a rearrangement of `keys` by `inv_iff`
  perm_sum_int ((List.perm_append_comm.trans ((inv_iff w).1 h).2).map _)

/-- saving is atomic with respect to process crashes (same statement as C19.save_atomic, for
`wallet.json`): after every prefix of the save's operations the wallet file is the complete
previous or the complete new wallet -/
theorem save_atomic (fs : FS) (chunks : List Bytes) (n : Nat) :
    let fs' := ((saveOps "wallet.json" chunks).take n).foldl FS.apply fs
    (fs'.read "wallet.json" = fs.read "wallet.json" ∨ fs'.read "wallet.json" = some chunks.flatten) ∧
    (n ≥ (saveOps "wallet.json" chunks).length → fs'.read "wallet.json" = some chunks.flatten) :=
  saveOps_atomic fs "wallet.json" chunks n

/-- non-vacuity: a concrete two-key wallet satisfies `Inv`, and on it a hand-out, a save/load, a
restore and a second hand-out produce a log in which the restore separates the two hand-outs -/
example :
    let w := (Wallet.empty.addKey [1] [10]).addKey [2] [20]
    Inv w ∧ Wallet.load w.dump = some w ∧
    (runOps w [] [.handOut "a" 0, .saveLoad, .restore [2], .handOut "b" 0]).2 =
      [(true, [2]), (false, [2]), (true, [2])] ∧
    (runOps w [] [.handOut "a" 0, .saveLoad, .handOut "b" 0]).2 = [(true, [1]), (true, [2])] := by
  refine ⟨addKey_inv _ _ _ (addKey_inv _ _ _ empty_inv (by decide)) (by decide), ?_, ?_, ?_⟩
  · decide
  · decide
  · decide

end C15
end Model
