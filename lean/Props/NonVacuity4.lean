import Props.NonVacuity1
import Props.NonVacuity2
import Props.C05Code
import Props.C10Sync
import Props.C11
import Props.C16Code
import Props.C17
import Props.C19
import Props.GenTie.MinerRule
import Props.GenTie.HandleBlockRule
import Props.GenTie.PoolRule
import Props.GenTie.TxHandlerRule
import Props.GenTie.HelloRule
import Props.GenTie.PeerBookRule
import Props.GenTie.FetchRule
import Props.GenTie.DispatchRule
import Props.GenTie.GetBlocksRule
import Props.GenTie.BlockRule
import Props.GenTie.BlockByItselfRule
import Props.GenTie.CoinbaseRule
import Props.GenTie.SummaryRule
import Props.GenTie.TargetRule
import Props.GenTie.SpendPlanRule
import Props.GenTie.SpendRule
import Props.GenTie.FeeRule
import Props.GenTie.Head
import Props.GenTie.Vlq
import Props.GenTie.FlushRule

/-!
# NonVacuity4 — C05Code, C07, C10Walk, C10Sync, C11, C16, C16Code, C17, C19 and the conditional tie theorems of Props/GenTie

Every `example` / `nonvacuous_*` theorem *applies* the theorem to concrete values, so that all its hypotheses hold
together for that instance. The instances are those of `NonVacuity1` (32-byte toy hashes `nvC`, chain `G ← A`, miner block `B`)
and `NonVacuity2` (toy primitives `exC`, chain `G ← B1` with a spend, accepted by full validation).

What the instances show about the statements:
* `C19.self_address_not_retried` says that the logged attempts to `k` never change once the address is the node's own, and
  has no hypothesis on the log; why it could not have the hypothesis "the log holds no attempt to `k` at all" is said in the
  C19 section (`self_hyps_unreachable_for_dialled_key`). The theorem is applied below to the book `self_connection_dropped`
  produces, and `self_connection_never_retried` composes the two.
* `GenTie.model_fee_as_translated` takes the list of the values the model looks up for the inputs, in order;
  `model_fee_as_translated_of_sum`, which takes any atom list `ins` of the right sum, says less (applied below with
  `[1, 2, 3, 4]` for a transaction with one input of value 10).
* `GenTie.model_dispatch_is_translated` is an equivalence ("exactly when"), not only the direction translated raises → model
  refuses: no handler of the model raises the dispatcher's exception.

What the statements do not say:
* `GenTie.model_reply_length_as_translated`: the reply is compared through its length only; `loop_is_scan` identifies the
  scan results `none` and `some none`.
* Atoms fixed by a hypothesis, so that a branch of the translated tree is not covered by the tie:
  `model_add_to_pool_is_translated_effects` (`has_head` is the literal `true`; `hhead` is not used by the proof),
  `model_block_by_itself_as_translated` and `model_block_in_state_as_translated` (`htx` fixes "the block has transactions";
  `hev` must hold even below the horizon), `model_miner_is_translated_effects` (`hev`),
  `model_summary_in_state_as_translated` (`ht`), `model_chain_step_is_translated_effects` (`hhead`),
  `model_tx_handler_is_translated_effects` (`hpool`).
* `BalancesRule` / `AddBlockNvRule` compare through `okOf`, which drops the whole error value (kind and text); the
  doc-comments say "up to the text of the error".
-/

namespace NonVacuity4
open Model

theorem some_getD {α : Type} (x : Option α) (d : α) (h : x.isSome = true) : x = some (x.getD d) := by
  cases x with
  | none => cases h
  | some a => rfl

-- `NonVacuity1.getOk` of Props/Toy.lean again: sections below open `NonVacuity2`, whose `G`, `sG` clash with `NonVacuity1`'s
def getOk {α : Type} (x : Except Err α) (d : α) : α := match x with | .ok a => a | .error _ => d

theorem eq_ok_getOk {α : Type} {x : Except Err α} (d : α) (h : NonVacuity1.isOk x = true) : x = .ok (getOk x d) :=
  NonVacuity1.eq_ok_getOk d h

theorem ok_unique {α : Type} {x : Except Err α} {a : α} (h : x = .ok a) : ∀ b, x = .ok b → b = a :=
  fun _ hb => Except.ok.inj (hb.symm.trans h)

/-! ## C05Code — the only hypothesis is `0 < height` -/

example : Gen.select_block_height [0, 0, 0, 0, 0, 0, 0, 9, 1] 7 < 7 :=
  C05.code_select_block_height_in_range [0, 0, 0, 0, 0, 0, 0, 9, 1] 7 (by decide)

example : Gen.select_block_height [0, 0, 0, 0, 0, 0, 0, 9, 1] 7 = 2 := by decide

/-! ## C07 — the block the miner of `NonVacuity1` assembled (reward + two spends, 675 bytes), read back from the wire -/

open NonVacuity1 in
/-- the decoded object: the same content, ids cached from the raw bytes -/
def Bwire : Block := ((decBlock nvC.sha256d (encBlock B ++ [9, 9])).getD (B, [])).1

open NonVacuity1 in
theorem Bwire_eq :
    Bwire = ⟨B.header, B.txs.map fun t => ⟨t.tx, some (nvC.sha256d (encTx t.tx))⟩, some (nvC.sha256d (encHeader B.header))⟩ := by
  rw [Bwire, C07.decBlock_encBlock _ B _ wfB]; rfl

open NonVacuity1 in
theorem Bwire_dec : decBlock nvC.sha256d (encBlock B ++ [9, 9]) = some (Bwire, [9, 9]) := by
  rw [Bwire_eq]; exact C07.decBlock_encBlock _ B _ wfB

open NonVacuity1 in
/-- `decBlock_id`: hypothesis met by a three-transaction block followed by two more bytes -/
theorem nonvacuous_C07_decBlock_id :
    encBlock B ++ [9, 9] = encBlock Bwire ++ [9, 9] ∧ Bwire.content.WF ∧
    Bwire.id nvC = nvC.sha256d (encHeader Bwire.header) ∧
    ∀ t ∈ Bwire.txs, t.id nvC = nvC.sha256d (encTx t.tx) :=
  C07.decBlock_id nvC _ Bwire [9, 9] Bwire_dec

open NonVacuity1 in
/-- the instance is not degenerate: three transactions, and the decoded object is not the in-memory one (ids cached) -/
example : Bwire.txs.length = 3 ∧ Bwire ≠ B ∧ Bwire.content = B.content := by
  rw [Bwire_eq]
  refine ⟨by rw [List.length_map, B_eq]; rfl,
    (fun h => nomatch (congrArg Block.cached h : some (nvC.sha256d (encHeader B.header)) = none)), ?_⟩
  rw [Block.content, List.map_map]; rfl

open NonVacuity1 in
theorem B_dec_exact : decBlock nvC.sha256d (encBlock B) = some (Bwire, []) := by
  rw [Bwire_eq, ← (encBlock B).append_nil]; exact C07.decBlock_encBlock _ B _ wfB

open NonVacuity1 in
/-- `same_content_same_id`: two different byte strings (one with trailing bytes) holding the same header -/
example : Bwire.id nvC = Bwire.id nvC ∧ encBlock B ≠ encBlock B ++ [9, 9] :=
  ⟨C07.same_content_same_id nvC (encBlock B) (encBlock B ++ [9, 9]) Bwire Bwire [] [9, 9] B_dec_exact Bwire_dec rfl,
   fun h => nomatch List.self_eq_append_right.1 h⟩

open NonVacuity1 in
/-- `decTx_id` / `transaction_single_encoding` / `vlq_canonical`: the spend `t1` -/
example := C07.decTx_id nvC (encTx t1.tx ++ [1]) ⟨t1.tx, some (nvC.sha256d (encTx t1.tx))⟩ [1]
  (C07.decTx_encTx _ t1.tx [1] wf_t1)

open NonVacuity1 in
example := C07.transaction_single_encoding (encTx t1.tx) (encTx t1.tx) t1.tx [] t1_dec t1_dec

example := C07.vlq_canonical [0x80, 0x40, 7] 64 [7] (by decide +kernel)

/-- `frame_roundtrip` / `message_roundtrip`: a data request for a block -/
example := C07.frame_roundtrip ⟨5, 1, 0, 0⟩ (.getData [0, 0] (zeros 32)) (by simp [MsgHeader.WF])
  (by simp [Msg.WF, zeros_length])

example := C07.message_roundtrip (.inventory [⟨[0, 0], zeros 32⟩]) [3]
  (List.forall_mem_singleton.2 (by simp [InvItem.WF, zeros]))

/-! ## C10Walk / C10Sync — requester `[G]`, server `[G, B1]` of `NonVacuity2` (`B1` holds a spend and passed full validation) -/

section Walk
open NonVacuity2 C10Converge

def idxF : Map Nat Block := (sF.current.bind sF.byHeightAt.get?).getD []

theorem sF_idx : sF.current.bind sF.byHeightAt.get? = some idxF := some_getD _ _ (by rw [sF_eq]; decide +kernel)
theorem sF_head : sF.head = some B1 := by rw [sF_eq]; rfl
theorem foldG' : foldBlocks exC .empty [G] = .ok sG := (foldBlocks_single exC .empty G).trans hG

/-- `walk_lists_active_chain_on_built_states`: locator `[id G]`, the scan yields 1, the walk lists `B1` -/
theorem nonvacuous_C10Walk_on_built_states :
    ∃ ids, C10Walk.walk exC exP sF 1 [[1]] = .ok ids ∧ ids.length = B1.height + 1 - 1 ∧
      ∀ k (hk : k < ids.length), ∃ blk, idxF.get? (1 + k) = some blk ∧ ids[k] = blk.id exC :=
  C10Walk.walk_lists_active_chain_on_built_states exC exP [G, B1] sF wf_GB1 fold_GB1 idxF B1 1 1 [[1]] sF_idx sF_head
    (by decide) (by decide +kernel) (by decide)

example : C10Walk.walk exC exP sF 1 [[1]] = .ok [[2]] := by decide +kernel

/-- the four universally quantified "added hypotheses" (`hfull` includes height 0, i.e. the genesis block; `hstored`, `hlink`
range over the whole index) hold of the concrete state; `walk_lists_active_chain_unknown_locator` / `_after_block` /
`_from_start` then apply with them -/
theorem sF_active_chain :
    (∀ h, h ≤ B1.height → ∃ blk, idxF.get? h = some blk) ∧
    (∀ h, B1.height < h → idxF.get? h = none) ∧
    (∀ h blk, idxF.get? h = some blk → sF.blocks.get? (blk.id exC) = some blk ∧ blk.height = h) ∧
    (∀ h blk nxt, idxF.get? h = some blk → idxF.get? (h + 1) = some nxt → nxt.prev = blk.id exC) :=
  C10Walk.built_state_active_chain exC [G, B1] sF wf_GB1 fold_GB1 idxF B1 sF_idx sF_head

example :=
  C10Walk.walk_lists_active_chain_unknown_locator exC exP sF idxF B1 1 [[99]] sF_idx sF_head (by decide)
    sF_active_chain.1 sF_active_chain.2.1 sF_active_chain.2.2.1 sF_active_chain.2.2.2
    (by decide +kernel) (by decide)

example :=
  C10Walk.walk_lists_active_chain_after_block exC exP sF idxF B1 1 0 G sF_idx sF_head (by decide)
    sF_active_chain.1 sF_active_chain.2.1 sF_active_chain.2.2.1 sF_active_chain.2.2.2 (by decide +kernel) (by decide)

example :=
  C10Walk.walk_lists_active_chain_from_start exC exP sF idxF B1 1 1 [[1]] sF_idx sF_head (by decide)
    sF_active_chain.1 sF_active_chain.2.1 sF_active_chain.2.2.1 sF_active_chain.2.2.2 (by decide +kernel) (by decide)

theorem compat_G_GB1 : ∀ a ∈ [G], ∀ b ∈ [G, B1], a.id exC = b.id exC → a = b := by decide +kernel

/-- `every_missing_block_offered`: all of the (eleven) hypotheses at once; the requester is offered `B1` -/
theorem nonvacuous_C10Walk_every_missing_block_offered :
    ∃ ids, C10Walk.walk exC exP sF 1 [[1]] = .ok ids ∧
      ∀ h blk, h ≤ B1.height → idxF.get? h = some blk →
        blk.id exC ∈ ids ∨ (sG.blocks.get? (blk.id exC)).isSome = true :=
  C10Walk.every_missing_block_offered exC exP [G] [G, B1] sG sF wf_G foldG' wf_GB1 fold_GB1 rfl
    (fun a ha b hb h => by rw [compat_G_GB1 a ha b hb h]; exact ⟨rfl, rfl⟩)
    idxF B1 G sF_idx sF_head nG_head (by decide) (by decide) 1 (by decide) [[1]] nG_locator

/-- … and the conclusion is not trivially true: the requester does not store `B1`, so it must be (and is) listed -/
example : idxF.get? 1 = some B1 ∧ sG.blocks.get? (B1.id exC) = none := by decide +kernel

example := C10Walk.every_missing_block_offered_unless_not_behind exC exP [G] [G, B1] sG sF wf_G foldG' wf_GB1 fold_GB1 rfl
    (fun a ha b hb h => by rw [compat_G_GB1 a ha b hb h]; exact ⟨rfl, rfl⟩)
    idxF B1 G sF_idx sF_head nG_head (by decide) 1 (by decide) [[1]] nG_locator

example := C10Walk.locator_ok_on_built_states exC [G, B1] sF wf_GB1 fold_GB1
example := C10Walk.built_state_has_head exC [G, B1] sF wf_GB1 fold_GB1

/-- `C10Sync.catch_up` applied (the file's own example only states the hypotheses existentially) -/
theorem nonvacuous_C10Sync_catch_up :
    ∃ req', foldBlocks exC sG (C10Sync.missing exC sG idxF B1) = .ok req' ∧
      (∀ h blk, h ≤ B1.height → idxF.get? h = some blk → (req'.blocks.get? (blk.id exC)).isSome = true) ∧
      ∃ hd', req'.head = some hd' ∧ B1.height ≤ hd'.height :=
  C10Sync.catch_up exC [G] [G, B1] sG sF wf_G foldG' wf_GB1 fold_GB1 rfl compat_G_GB1 idxF B1 sF_idx sF_head

example : C10Sync.missing exC sG idxF B1 = [B1] := by decide +kernel

/-- `sG` with `B1` added, not validated -/
def sChanged : CoinState := okOr (addBlockNoValidation exC sG B1)
theorem B1_nv : addBlockNoValidation exC sG B1 = .ok sChanged := eq_ok_okOr (by decide +kernel)

/-- `C10Sync.solicited_delivery_is_add`: `B1` arrives as an answer (`in_response_to = 1`) at the node `nG`
(`IBD_VALIDATION_SKIP` 5, height 1): all six hypotheses -/
example :=
  C10Sync.solicited_delivery_is_add exC exP nG 0 1 B1 5 (okOr (addBlockNoValidation exC sG B1)) (by decide)
    nG_lacks_B1 (by decide +kernel) (by decide +kernel) (by decide) B1_nv

end Walk

/-! ## C11 -/

section Framing
open C11

def magic : Bytes := [77, 65, 74, 73]

theorem good_payloads : ∀ p ∈ [[9, 8], [7]], GoodPayload 100 (fun _ => false) p := by
  unfold GoodPayload; decide

/-- `bad_magic_refused_at_that_point`: two good frames, then four bytes that are not the magic, cut into three reads -/
theorem nonvacuous_C11_bad_magic :
    (feedAll magic 100 (fun _ => false) RState.init
        [[77, 65, 74, 73, 0, 0], [0, 2, 9, 8, 77, 65, 74, 73, 0, 0, 0, 1], [7, 1, 2, 3, 4, 5]]).payloads = [[9, 8], [7]] ∧
    (feedAll magic 100 (fun _ => false) RState.init
        [[77, 65, 74, 73, 0, 0], [0, 2, 9, 8, 77, 65, 74, 73, 0, 0, 0, 1], [7, 1, 2, 3, 4, 5]]).err = some .magic :=
  bad_magic_refused_at_that_point magic 100 (fun _ => false) [[9, 8], [7]] [1, 2, 3, 4, 5] _ rfl good_payloads
    (by decide +kernel) (by decide +kernel) (by decide +kernel)

/-- `over_limit_length_refused_at_that_point`: a good frame, then a header announcing 101 > 100 bytes -/
example :=
  over_limit_length_refused_at_that_point magic 100 (fun _ => false) [[9, 8]] 101 [5, 5]
    [[77, 65, 74, 73, 0, 0, 0, 2, 9], [8, 77, 65, 74, 73, 0, 0, 0, 101, 5, 5]] rfl
    (fun p hp => good_payloads p (List.mem_singleton.1 hp ▸ List.mem_cons_self))
    (by decide +kernel) (by decide +kernel) (by decide +kernel)

/-- `feed_append` / `feed_inv`: a state in the middle of a frame (magic and length read, one payload byte buffered) -/
def stMid : RState := ⟨[9], true, some 2⟩
theorem stMid_inv : stMid.Inv := by intro _; rfl

example := feed_append magic 100 (fun _ => false) stMid [8, 77] [65, 74, 73] stMid_inv
example := feed_inv magic 100 (fun _ => false) stMid [8, 77] stMid_inv

/-- `chunking_irrelevant_from`: `Quiet` holds of that mid-frame state (not only of the initial one) -/
theorem stMid_quiet : Quiet magic 100 (fun _ => false) stMid := by
  rw [Quiet, recv_eq]
  exact RResult.Same.refl _

example := chunking_irrelevant_from magic 100 (fun _ => false) [[8, 77], [65, 74], [73, 0, 0, 0, 0]] stMid stMid_inv
  stMid_quiet

/-- `recv_quiet`: hypothesis `err = none` for that state -/
example := recv_quiet magic 100 (fun _ => false) stMid stMid_inv
  (by rw [recv_eq]; rfl)

example := fragmentation_independent magic 100 (fun _ => false) [[1, 2], [3]] [[1], [2, 3]] rfl

end Framing

/-! ## C16 / C16Code — the hypotheses are ranges of heights -/

example : C16.supply 40000000 = 2099999986350000 := C16.total_supply 40000000 (by decide)
example : C16.codeSupply 31500000 = Gen.MAX_SASHIMI := C16.code_total_supply 31500000 (by decide)
example : 0 < subsidy C16.P 31499999 := C16.subsidy_pos 31499999 (by decide)
example : Gen.get_block_subsidy 31500000 = 0 := C16.code_subsidy_zero 31500000 (by decide)
example := C16.subsidy_first_era 1049999 (by decide)
example := C16.code_subsidy_antitone 1049999 1050000 (by decide)

/-! ## C17 -/

section Merkle
open C17

/-- `duplicate_last_changes_root`: the hypothesis "the roots agree" is satisfiable — for the non-injective `sumHash` the root of
`[x]` and of `[x, x]` coincide for `x = 0…0` — and the conclusion then holds by its *second* disjunct being exhibited (the
entry `x` is the inner hash of the other tree), so neither hypothesis nor conclusion is idle -/
theorem nonvacuous_C17_duplicate_last :
    Collision sumHash ∨ ∃ t t', merkleTree ([] ++ [zeros 32]) = some t ∧ merkleTree ([] ++ [zeros 32, zeros 32]) = some t' ∧
      LeafIsInner sumHash t t' :=
  duplicate_last_changes_root sumHash sumHash_len [] (zeros 32)
    (by decide) (by decide +kernel)

/-- `root_injective`: lists of different lengths with equal roots -/
example := root_injective sumHash sumHash_len [zeros 32] [zeros 32, zeros 32] (by decide) (by decide)
  (by decide) (by decide) (by decide +kernel)

example : [zeros 32] ≠ [zeros 32, zeros 32] := by decide

example := proof_sound sumHash [[1], [2], [3]] (by decide) 2 (by decide)
example := root_defined sumHash [[1], [2], [3]] (by decide)

end Merkle

/-! ## C19 -/

section PeerBook
open C19

/-- the book after the first dial of `exKey` at time 100: the peer is connected, registered, not greeted -/
def b1 : Book := Book.run exParams exBook [.step 100]
def p1 : ConnPeer := ⟨some 100, 0, false, true, 0⟩
theorem b1_conn : b1.connected.get? exKey = some p1 := by decide +kernel

/-- `ban_score_counts` -/
theorem nonvacuous_C19_ban_score_counts :
    (b1.disconnect exKey p1.serial).disconnected.get? exKey = some ⟨some 100, 1⟩ :=
  ban_score_counts b1 exKey p1 rfl b1_conn rfl

/-- `greeting_resets_ban`, on a peer with a non-zero ban score (second dial after one failure) -/
def b2 : Book := Book.run exParams exBook [.step 100, .close exKey, .step 120]
theorem b2_conn : b2.connected.get? exKey = some ⟨some 120, 1, false, true, 1⟩ := by decide +kernel
example : b2.connected.get? exKey = some ⟨some 120, 1, false, true, 1⟩ := b2_conn
example := greeting_resets_ban exParams b2 exKey ⟨some 120, 1, false, true, 1⟩ 2412 b2_conn

example :=
  self_connection_dropped exParams b1 exKey p1 2412 rfl b1_conn rfl

/-- `book_disjoint` / `never_insane` on a run with a reconnect -/
example := book_disjoint exParams exBook rfl [.step 100, .close exKey, .step 120, .hello exKey false 2412]
example := never_insane exParams exBook rfl [.step 100, .incoming "10.0.0.9" 5000, .hello ⟨"10.0.0.9", 5000, false⟩ false 2412]

/-- `announced_never_overwrite` (connected) / `peers_file_shape` -/
example := announced_never_overwrite b1 "10.0.0.1" 2412 (.inr (by decide +kernel))
example := peers_file_shape exParams [(⟨"a", 1, true⟩, "t1"), (exKey, "t0")] exKey "t2" (by decide +kernel)

/-- `self_address_not_retried` (no hypothesis on the log) applied to a REACHABLE book — the one
`self_connection_dropped` produces from `b1`: dialled at 100, greeted with the node's own nonce. Its log holds the attempt to
`exKey`, the address is the node's own, and the later manager steps (far beyond every back-off) log no further attempt -/
def bDropped : Book := Book.apply exParams b1 (.hello exKey true 2412)
theorem nonvacuous_C19_self_address_not_retried :
    (Book.run exParams bDropped [.step 5000, .close exKey, .step 100000]).attempts.filter (fun e => decide (e.1 = exKey))
      = [(exKey, 100, 0)] :=
  (self_address_not_retried exParams bDropped exKey (self_connection_dropped exParams b1 exKey p1 2412 rfl b1_conn rfl).2
    [.step 5000, .close exKey, .step 100000]).1.trans (by decide +kernel)

/-- `self_connection_never_retried`: the composition, with the hypotheses of `self_connection_dropped` at `b1` -/
example : ((Book.run exParams (Book.apply exParams b1 (.hello exKey true 2412)) [.step 5000, .step 100000]).attempts.filter
      (fun e => decide (e.1 = exKey))).length = 1 :=
  (self_connection_never_retried exParams b1 exKey p1 2412 rfl b1_conn rfl [.step 5000, .step 100000]).2.trans (by decide +kernel)

/-- … whereas without the own address the peer that does not answer is dialled again (the statement is not trivially true of
every book) -/
example : ((Book.run exParams b1 [.close exKey, .step 5000]).attempts.filter (fun e => decide (e.1 = exKey))).length = 2 := by
  decide

/-! ### why `self_address_not_retried` has no hypothesis on the log: with one, the case its doc-comment is about is unreachable

`self_address_not_retried` is documented as "a connection to the node itself is detected, dropped and **not retried**". Take
as hypotheses `(k.host, k.port) ∈ b.myAddresses` and `∀ e ∈ b.attempts, e.1 ≠ k` (no attempt to `k` logged so far). An address
enters `myAddresses` only in `Book.apply (.hello k true _)` for an *outgoing* connected `k`, an outgoing key is connected only by
`startOutgoing`, and `stepPeers` logs the attempt `(k, now, _)` right before it. Hence in every book reachable from a start-up
book (nothing connected, no own address known) an own address of a dialled key comes with a logged attempt to that key: the two
hypotheses are contradictory for every outgoing `k`, and for an incoming `k` (`k.outgoing = false`) the conclusion "no attempt to `k` is
logged" is trivial because only outgoing keys are ever logged. In particular a theorem with these hypotheses cannot be applied to the book that
`self_connection_dropped` produces. The statement that holds and is meant — no *new* attempt to `k` — is the one of
`C19.self_address_not_retried` (`Book.SelfInv'` in `Proofs/Book.lean`: the logged attempts to `k` compared to the log at the time
of detection). -/

/-- every connected outgoing key and every own address has a logged attempt -/
def Tried (b : Book) : Prop :=
  (∀ k p, b.connected.get? k = some p → k.outgoing = true → ∃ e ∈ b.attempts, e.1 = k) ∧
  (∀ h p, (h, p) ∈ b.myAddresses → ∃ e ∈ b.attempts, e.1 = ⟨h, p, true⟩)

theorem PeerKey.eq_of_outgoing {k : PeerKey} (h : k.outgoing = true) : (⟨k.host, k.port, true⟩ : PeerKey) = k := by
  cases k; cases h; rfl

theorem Tried.peerDisconnected {b : Book} (h : Tried b) (k : PeerKey) (p : ConnPeer) : Tried (b.peerDisconnected k p) := by
  rw [Book.peerDisconnected_eq]
  refine ⟨fun k' p' hg ho => ?_, h.2⟩
  rw [Map.get?_erase] at hg
  split at hg
  · cases hg
  · exact h.1 k' p' hg ho

theorem Tried.disconnect {b : Book} (h : Tried b) (k : PeerKey) (s : Nat) : Tried (b.disconnect k s) :=
  Book.disconnect_cases k s h fun p _ => h.peerDisconnected k p

theorem Tried.stable (P : Params) (G : PeerKey → Prop) : Book.Stable P G fun b => Book.Disj b ∧ Tried b := by
  intro b b' hm ⟨hd, h⟩
  refine ⟨Book.Disj.stable P G _ _ hm hd, ?_⟩
  -- the connected map gets the entry `p` under `k`: `k` has a logged attempt, or is incoming
  have hset : ∀ {b' : Book} (k : PeerKey) (p : ConnPeer), b'.connected = b.connected.set k p →
      (∀ e ∈ b.attempts, e ∈ b'.attempts) → b'.myAddresses = b.myAddresses →
      (k.outgoing = true → ∃ e ∈ b'.attempts, e.1 = k) → Tried b' := by
    intro b' k p hc ha hm hk
    refine ⟨fun k' p' hg ho => ?_, fun hh pp hmem => ?_⟩
    · rw [hc, Map.get?_set] at hg
      split at hg
      · next e => exact e ▸ hk (e ▸ ho)
      · obtain ⟨e, he, hek⟩ := h.1 k' p' hg ho
        exact ⟨e, ha e he, hek⟩
    · obtain ⟨e, he, hek⟩ := h.2 hh pp (hm ▸ hmem)
      exact ⟨e, ha e he, hek⟩
  cases hm with
  | drop hp => exact Book.peerDisconnected_eq .. ▸ h.peerDisconnected _ _
  | accept host port s => exact hset _ _ rfl (fun _ he => he) rfl (fun ho => nomatch ho)
  | tick _ | learn _ _ => exact h
  | @greet k p hp _ => exact hset k _ rfl (fun _ he => he) rfl (h.1 k p hp)
  | @mine k p hp hout =>
    refine ⟨h.1, fun hh pp hmem => ?_⟩
    rcases List.mem_cons.1 hmem with e | hmem
    · obtain ⟨e', he', hek⟩ := h.1 k p hp hout
      cases e
      exact ⟨e', he', hek.trans (PeerKey.eq_of_outgoing hout).symm⟩
    · exact h.2 hh pp hmem
  | @dial k d now hdk _ _ _ =>
    rw [Book.dial_eq d now (hd.not_connected hdk)]
    exact hset k _ rfl (fun _ he => List.mem_cons_of_mem _ he) rfl fun _ => ⟨_, List.mem_cons_self, rfl⟩

/-- **the finding**: from a start-up book (nobody connected, no own address recorded — whatever the peers file held), in every
reachable book an own address `(k.host, k.port)` of an outgoing key `k` comes with a logged attempt to `k`; so `hmine` of
`C19.self_address_not_retried` and a hypothesis `hno : ∀ e ∈ b.attempts, e.1 ≠ k` exclude each other for every key the node can
dial (which is why that statement has no `hno`) -/
theorem self_hyps_unreachable_for_dialled_key (P : Params) (b₀ : Book) (hc : b₀.connected = []) (hm : b₀.myAddresses = [])
    (evs : List BookEvent) (k : PeerKey) (hk : k.outgoing = true)
    (hmine : (k.host, k.port) ∈ (Book.run P b₀ evs).myAddresses) :
    ¬ ∀ e ∈ (Book.run P b₀ evs).attempts, e.1 ≠ k := by
  have h0 : Tried b₀ := by
    refine ⟨?_, ?_⟩
    · intro k' p hg; rw [hc] at hg; cases hg
    · intro h p hmem; rw [hm] at hmem; cases hmem
  obtain ⟨e, he, hek⟩ := ((Tried.stable P _).run' ⟨Book.Disj.of_connected_nil hc, h0⟩ evs).2.2 k.host k.port hmine
  exact fun hno => hno e he (hek.trans (PeerKey.eq_of_outgoing hk))

/-- … e.g. the book right after the self-connection was detected and dropped: own address known, attempt logged -/
example : ("10.0.0.1", 2412) ∈ (Book.run exParams exBook [.step 100, .hello exKey true 2412]).myAddresses ∧
    (Book.run exParams exBook [.step 100, .hello exKey true 2412]).attempts = [(exKey, 100, 0)] := by decide +kernel

/-- and for an incoming key the conclusion "no attempt to `k` is logged" holds of every reachable log anyway:
only outgoing keys are logged (`backoff` gives `k.outgoing = true` for every entry) -/
example (evs : List BookEvent) (newer older : List (PeerKey × Int × Nat)) (k : PeerKey) (t : Int) (ban : Nat)
    (hlog : (Book.run exParams exBook evs).attempts = newer ++ (k, t, ban) :: older) : k.outgoing = true :=
  (backoff exParams exBook exBook_fresh evs newer older k t ban hlog).2.1

end PeerBook

/-! # the conditional tie theorems of Props/GenTie

All of them are stated at the production constants `Gen.params` (checkpoint horizon 163000, table entries every 500 heights).
The chain `G ← B1` of `NonVacuity2` is usable there: `B1` (height 1, not in the table) passes `add_block` under `Gen.params`
(below the horizon only the checkpoint comparison decides). For the branches *above* the horizon a hand-made state with a block
at height 163000 is used (`sH`, `BT`). -/

section Ties
open NonVacuity2 C10Converge GenTie

def uG : Utxo := [(⟨[7], 0⟩, ⟨10, [5]⟩)]
theorem sG_utxo : sG.utxoAt.get? B1.prev = some uG := sG_utxoAt

/-! ## MinerRule — a candidate assembled by the model's miner from `sG` and the pool `[spend]`, at the production constants -/

def mG : ChainMgr := ⟨sG, [spend], some sG⟩
def candP : Summary × Nat × List CTx :=
  getOk (minerCandidate exC Gen.params mG [5] 6 0) (⟨0, [], [], 0, [], 0⟩, 0, [])
def evP : Evidence :=
  getOk (evidenceAfterScrypt exC Gen.params sG (summaryHash exC candP.1 candP.2.1) candP.1 candP.2.1 candP.2.2) ⟨[], [], []⟩
def BP : Block := Block.fresh ⟨candP.1, evP⟩ candP.2.2
def sP : CoinState := getOk (addBlock exC Gen.params sG BP 6) .empty

theorem candP_ok : minerCandidate exC Gen.params mG [5] 6 0 = .ok candP := eq_ok_getOk _ (by decide +kernel)
/-- height 1 is not in the production table: looked up once (a scan of all 327 entries), so that the evaluations below do not
scan the table again -/
theorem unlisted_1 : Gen.params.knownHashes.lookup 1 = none := by decide +kernel
theorem B1_inState : validateBlockInState exC Gen.params sG B1 = .ok () :=
  C18.unlisted_height_accepted exC Gen.params sG B1 (by decide) unlisted_1

theorem BP_added : addBlock exC Gen.params sG BP 6 = .ok sP :=
  have h : BP.height = 1 := by decide +kernel
  have hs : validateBlockInState exC Gen.params sG BP = .ok () :=
    C18.unlisted_height_accepted exC Gen.params sG BP (by rw [h]; decide) (by rw [h]; exact unlisted_1)
  eq_ok_getOk _ (by unfold addBlock; rw [hs]; decide +kernel)

/-- `model_miner_is_translated_effects`: `hev` and `hadd` met by a block that is a solution and is accepted (the branch with all
five effects); the node is `nG` (two peers, a pending transaction) -/
theorem nonvacuous_GenTie_miner :
    let eff := Gen.miner_found_effects (!(bytesLt (BP.id exC) BP.target)) (okB3 (addBlock exC Gen.params sG BP 6))
    (minerFound exC Gen.params nG sG candP.1 candP.2.1 candP.2.2 (summaryHash exC candP.1 candP.2.1) 6).1.1 =
      eff.1.foldl (runMinerEffect exC BP sP) nG ∧
    ((minerFound exC Gen.params nG sG candP.1 candP.2.1 candP.2.2 (summaryHash exC candP.1 candP.2.1) 6).1.2.isSome = eff.2) :=
  model_miner_is_translated_effects exC nG sG candP.1 candP.2.1 candP.2.2 (summaryHash exC candP.1 candP.2.1) 6 evP sP
    (eq_ok_getOk _ (by decide +kernel)) (ok_unique BP_added)

example : Gen.miner_found_effects (!(bytesLt (BP.id exC) BP.target)) (okB3 (addBlock exC Gen.params sG BP 6)) =
    (["validate_and_add", "adopt_validated", "broadcast", "buffer", "flush"], false) ∧ BP.txs.length = 2 := by
  rw [BP_added]; decide +kernel

/-- `model_candidate_timestamp_is_translated`: `hh` -/
example := model_candidate_timestamp_is_translated nG.mgr 6 ⟨.empty, [], none⟩ G nG_head

/-! ## HandleBlockRule — the unsolicited delivery of `B1` to `nG` -/

-- `hhead` holds whenever its premise does (`add_ok_head_some`, as used here): the statement could do without it
example :=
  model_handler_is_translated_effects exC nG 0 0 B1 5 sChanged (ok_unique B1_nv)
    (fun _ h => let ⟨_, e⟩ := add_ok_head_some exC h; e ▸ rfl)

/-- the branch taken: apply, buffer, adopt as validated, flush, relay -/
example : Gen.handle_block_effects (sG.blocks.contains (B1.id exC)) (sG.blocks.contains B1.prev)
      (okB2 (validateBlockByItself exC Gen.params B1 5)) (okB2 (addBlockNoValidation exC sG B1)) (decide ((0 : Nat) = 0))
      B1.height (okB2 (validateBlockInState exC Gen.params sG B1)) nG.mgr.lastValid.isSome
      (match sChanged.head with | some hd => blockEq B1 hd | none => false) =
    (["remove_from_inventory", "apply", "buffer", "adopt_validated", "flush", "broadcast"], false) := by
  rw [B1_inState]; decide +kernel

/-! ## PoolRule / TxHandlerRule -/

/-- `model_add_to_pool_is_translated_effects`: `hhead` (the atom `has_head` is fixed to `true` by the statement) -/
example := model_add_to_pool_is_translated_effects exC ⟨sG, [], none⟩ spend (by decide +kernel)

/-- the branch the tie does not cover (`has_head = false`): both sides let the exception escape -/
example : Gen.add_to_pool_effects .ok .ok .ok false = ([], true) ∧
    (match addTxToPool exC Gen.params ⟨.empty, [], none⟩ spend with | .error (.key _) => true | _ => false) = true := by
  decide +kernel

def nEmpty : Node := ⟨⟨sG, [], some sG⟩, [], [], [peerA, peerI], 0⟩

theorem spend_admitted : addTxToPool exC Gen.params nEmpty.mgr spend = .ok (⟨sG, [spend], some sG⟩, true) :=
  NonVacuity1.addTx_intro exC Gen.params nEmpty.mgr spend (by decide +kernel) (by decide +kernel)
    (by decide +kernel)

/-- `model_tx_handler_is_translated_effects`: not pending, admitted (relayed) -/
example := model_tx_handler_is_translated_effects exC nEmpty spend ⟨sG, [spend], some sG⟩ true (fun _ => spend_admitted)

/-- … and already pending (the hypothesis is then vacuous, `m'`, `admitted` arbitrary — the translated tree ignores them) -/
example := model_tx_handler_is_translated_effects exC nG spend nG.mgr false
  (fun h => absurd (show nG.mgr.pool.any (fun x => x.tx = spend.tx) = true by decide) h)

/-! ## HelloRule / PeerBookRule -/

/-- `model_hello_is_translated_effects`: an outgoing connection whose greeting carries the node's own nonce … -/
example := model_hello_is_translated_effects C19.exParams b1 C19.exKey p1 true 2412 b1_conn

/-- … and an incoming one (the reverse address is announced) -/
def bIn : Book := Book.run C19.exParams C19.exBook [.incoming "10.0.0.9" 5000]
example := model_hello_is_translated_effects C19.exParams bIn ⟨"10.0.0.9", 5000, false⟩ ⟨none, 0, false, true, 0⟩ false 2412
  (by decide +kernel)

/-- `model_step_peer_as_translated`: `hd` -/
example := model_step_peer_as_translated C19.exParams 100 C19.exBook C19.exKey ⟨none, 0⟩ ⟨none, 0⟩ [] (by decide +kernel)

/-! ## FetchRule — the step of `NonVacuity2`'s C10Fetch example (a request is sent) -/

example := model_chain_step_is_translated_effects exC nG exFs 2000 0 G nG_head

example : Gen.chain_step_effects (Gen.should_fetch 2000 G.header.summary.timestamp exFs.startedAt)
    (candidates fetchParams nG exFs 2000).isEmpty (pruneFetching nG exFs 2000).length (okB4 (locator exC sG)) =
    (["select_candidates", "prune", "locator", "choose", "set_waiting", "append_fetching", "send"], false) := by
  decide +kernel

/-! ## DispatchRule -/

/-- `model_dispatch_is_translated` (an equivalence), left to right: `hp` and "the translated dispatcher raises" — the peer
that has not greeted asks for peers -/
example := (model_dispatch_is_translated exC exP nG 1 peerI 7 0 .getPeers 5 rfl).1 (by decide)

/-- right to left, used contrapositively on the greeted peer: the translated dispatcher does not raise, so the model's result
is not the refusal — here a data request of an unknown type, which raises something else -/
example : handleMessage exC exP nG 0 7 0 (.getData [9] [1]) 5 ≠ (nG, some (.other "First message must be Hello")) :=
  fun h => absurd ((model_dispatch_is_translated exC exP nG 0 peerA 7 0 (.getData [9] [1]) 5 rfl).2 h) (by decide)
example := model_dispatch_not_raised exC exP nG 0 peerA 7 0 (.getData [9] [1]) 5 rfl (by decide)
example := (model_raises_first_must_be_hello_iff exC exP nG 1 7 0 .getPeers 5).2 ⟨peerI, rfl, by decide, rfl⟩
example := model_dispatch_routes_data exC exP nG 0 peerA 7 0 5 rfl rfl

/-- `hp`, `hg` for the greeted peer: inventory, data request, header payload -/
example := model_inventory_is_translated_effects exC nG 0 peerA 7 0 [[2]] 5 rfl rfl
example := model_get_data_is_translated_effects exC exP nG 0 peerA 7 0 [0, 0] [1] 5 rfl rfl
example := model_data_header_raises exC exP nG 0 peerA 7 0 5 rfl rfl

/-- `check_inventory_as_model`: one earlier, used batch -/
example := check_inventory_as_model (fun i => i == [1]) bytesToNat [[1], [2]] [(true, [(false, false, 5)])]
  (List.forall_mem_singleton.2 rfl)

/-! ## GetBlocksRule — 32-byte ids are needed: the chain `G ← A` of `NonVacuity1` -/

section GetBlocks
open NonVacuity1
attribute [local irreducible] sGA

def idxGA : Map Nat Block := (sGA.current.bind sGA.byHeightAt.get?).getD []

/-- the universally quantified hypothesis `hprev` (it includes the genesis block, whose parent reference is 32 zero bytes) -/
theorem idxGA_prev : ∀ hh b, idxGA.get? hh = some b → b.prev.length = 32 := by
  intro hh b h
  have hall : ∀ e ∈ idxGA, e.2.prev.length = 32 := by decide +kernel
  exact hall (hh, b) (Map.mem_of_get? h)

theorem loc32 : ∀ x ∈ [pad32 101], x.length = 32 := by decide

example := loop_is_scan sGA idxGA idxGA_prev [pad32 101] loc32

/-- `model_reply_length_as_translated`: the outer hypotheses, and then the inner one for the index the theorem returns -/
theorem nonvacuous_GenTie_reply_length :
    match Gen.get_blocks_range (indexHas idxGA) (prevAt idxGA) ([pad32 101].map (locatorAtoms sGA)) A.height with
    | none => [pad32 102] = []
    | some (a, b) => [pad32 102].length = b - a := by
  obtain ⟨index, hd, hidx, hhd, h⟩ := model_reply_length_as_translated nvC sGA [pad32 101] [pad32 102] (by decide +kernel) loc32
  have e1 : index = idxGA := Option.some.inj (hidx.symm.trans (some_getD _ [] (by decide +kernel)))
  -- only the head's height is needed (comparing the blocks would evaluate the evidence of `A`)
  have e2 : sGA.head.map (·.height) = some A.height := by decide +kernel
  rw [hhd] at e2
  subst e1
  rw [show hd.height = A.height from Option.some.inj e2] at h
  exact h idxGA_prev

example : Gen.get_blocks_range (indexHas idxGA) (prevAt idxGA) ([pad32 101].map (locatorAtoms sGA)) A.height = some (1, 2) := by
  decide +kernel

end GetBlocks

/-! ## BlockRule / BlockByItselfRule / CoinbaseRule / SummaryRule / TargetRule -/

def evB1 : Evidence := getOk (constructEvidence exC Gen.params sG B1.header.summary B1.height B1.txs) ⟨[], [], []⟩
theorem evB1_ok : constructEvidence exC Gen.params sG B1.header.summary B1.height B1.txs = .ok evB1 :=
  eq_ok_getOk _ (by decide +kernel)

/-- `model_block_in_state_as_translated` below the horizon (only the checkpoint comparison decides) -/
example :=
  (model_block_in_state_as_translated exC sG B1 evB1 cb1 [spend] uG evB1_ok rfl sG_utxo).1 B1_inState

/-! ### above the horizon: a hand-made state holding one block `H` at height 163000 (indexed at 0 as well, the height the toy
hash makes the chain sample select), and a block `BT` of height 163001 on it with the reward 10⁹ + 4 and the spend -/

def cbH : CTx := ⟨⟨[⟨thinAir, .coinbase 163000 []⟩], [⟨10, [5]⟩]⟩, some [7]⟩
def H : Block := ⟨⟨⟨163000, zeros 32, [7], 0, [1], 0⟩, ⟨[], [], []⟩⟩, [cbH], some [1]⟩
def sH : CoinState := ⟨[([1], H)], [([1], uG)], [([1], [(0, H), (163000, H)])], [([1], H)], some [1]⟩
def cbT : CTx := ⟨⟨[⟨thinAir, .coinbase 163001 []⟩], [⟨1000000004, [5]⟩]⟩, some [12]⟩
def sumT : Summary := ⟨163001, [1], [], 5, [1], 0⟩
def evT : Evidence := getOk (constructEvidence exC Gen.params sH sumT 163001 [cbT, spend]) ⟨[], [], []⟩
def BT : Block := ⟨⟨sumT, evT⟩, [cbT, spend], some [2]⟩

theorem sH_utxo : sH.utxoAt.get? BT.prev = some uG := by decide +kernel

-- the statement's `match` and the theorem's are two matchers on the same look-up: keep the unifier from running the look-up
attribute [local irreducible] Gen.KNOWN_HASHES in
/-- `model_block_in_state_as_translated` above the horizon: summary rules, evidence, reward rule, the spend's rules -/
theorem nonvacuous_GenTie_block_in_state_above_horizon :
    ¬ BT.height ≤ Gen.MAX_KNOWN_HASH_HEIGHT ∧
    Gen.block_in_state_ok BT.height (Gen.params.knownHashes.lookup BT.height).isSome
      (match Gen.params.knownHashes.lookup BT.height with | some h => decide (BT.id exC ≠ h) | none => false)
      (okB (validateSummaryInState exC Gen.params sH BT.header.summary)) (decide (BT.header.evidence ≠ evT))
      (okB (validateCoinbaseInState Gen.params sH cbT BT)) ([spend].map fun t => okB (validateTxInState exC uG t)) = true :=
  ⟨by decide, (model_block_in_state_as_translated exC sH BT evT cbT [spend] uG (eq_ok_getOk _ (by decide +kernel)) rfl sH_utxo).1 (by decide +kernel)⟩

/-- … and one unit more of reward is refused by both sides -/
def cbT' : CTx := ⟨⟨[⟨thinAir, .coinbase 163001 []⟩], [⟨1000000005, [5]⟩]⟩, some [12]⟩
def BT' : Block := ⟨⟨sumT, getOk (constructEvidence exC Gen.params sH sumT 163001 [cbT', spend]) ⟨[], [], []⟩⟩, [cbT', spend], some [2]⟩
example : okB (validateBlockInState exC Gen.params sH BT') = false ∧
    okB (validateCoinbaseInState Gen.params sH cbT' BT') = false := by decide +kernel

/-- `model_block_by_itself_as_translated`: `htx`, `hroot` -/
example := model_block_by_itself_as_translated exC B1 5 cb1 [spend] [] rfl (by decide +kernel)

/-- `model_coinbase_in_state_as_translated`: `hpb`, `hu`, `hf` (fees 4) -/
example := model_coinbase_in_state_as_translated sG cb1 B1 G uG 4 sG_block sG_utxo fee_spend
example := model_coinbase_in_state_as_translated sH cbT BT H uG 4 (by decide +kernel) sH_utxo fee_spend

theorem target_1 : calcTarget exC Gen.params sG 1 5 G = .ok [1] := by decide +kernel
example := model_summary_in_state_as_translated exC sG B1.header.summary G sG_block [1] target_1
example := model_summary_unknown_parent exC sG ⟨1, [77], [], 5, [1], 0⟩ (by decide +kernel) 5 0 0 [1] (fun _ => [1])

/-- `model_calc_target_as_translated`: the ordinary branch, and the readjustment branch (height 10080, the interval's first block
is `G` at height 0 in the index of the parent `G`; two weeks elapsed: the target stays 1) -/
example := model_calc_target_as_translated exC sG 1 5 G [1] target_1

theorem nonvacuous_GenTie_calc_target_retarget :
    newTarget Gen.params G.target 1209600 = Gen.calc_target_rule 10080 1209600 G.target
      (fun hh => match (sG.byHeightAt.get? (G.id exC)).bind (·.get? hh.toNat) with | some sb => sb.timestamp | none => 0)
      (fun tg dt => newTarget Gen.params tg dt.toNat) :=
  model_calc_target_as_translated exC sG 10080 1209600 G _ (by decide +kernel)

example : 10080 % Gen.BLOCKS_BETWEEN_TARGET_READJUSTMENT = 0 ∧
    bytesToNat (newTarget Gen.params G.target 1209600) = 1 ∧ bytesToNat (newTarget Gen.params G.target 2419200) = 2 := by
  decide +kernel

/-! ## SpendPlanRule / SpendRule / FeeRule — the wallet of `NonVacuity2` (key `[5]`, the reward of `B1`) -/

def enc (r : OutRef) : Nat := bytesToNat r.hash * 10 + r.index

theorem w5_present : ∀ r ∈ w5.candidates bal5, (u1.get? r).isSome := by decide +kernel

/-- `model_plan_is_translated` / `model_plan_total`: `hpresent` with a non-empty candidate list -/
example := model_plan_is_translated w5 u1 bal5 9 1 [8] [5] enc w5_present
example := model_plan_total w5 u1 bal5 9 1 [8] [5] w5_present
example : w5.candidates bal5 = [⟨[12], 0⟩] := w5_candidates

/-- `model_createSpend_is_translated`: `hpresent` and a successful `createSpend` -/
example :=
  model_createSpend_is_translated w5 _ u1 bal5 9 1 [8] [5] [[3]] t5 enc w5_present w5_spend

example : Gen.create_spend 9 1 (keyAtoms w5 u1 bal5 enc) = some ([120], [9, 4], [120]) := by decide +kernel

example := any_bad_signature_refused [(false, true, 5), (false, false, 7)] [3] (false, false, 7) (by simp) rfl
example := any_missing_output_refused [(false, true, 5), (true, false, 0)] [3] (true, false, 0) (by simp) rfl

/-- `model_fee_as_translated`: `vals` is the list of the values looked up for the inputs — one input of value 10 -/
example := model_fee_as_translated uG spend [10] (by decide +kernel)
example : txFee uG spend = .ok (Gen.transaction_fee [10] (spend.tx.outputs.map (·.value))) :=
  model_fee_as_translated uG spend [10] (by decide +kernel)
example := (model_fee_defined_iff uG spend).2 ⟨[10], by decide +kernel⟩

/-- the weaker `model_fee_as_translated_of_sum`: `ins` is any list with the right sum, not the list of the inputs' values -/
example := model_fee_as_translated_of_sum uG spend 10 (by decide +kernel) [10] rfl
example := model_fee_as_translated_of_sum uG spend 10 (by decide +kernel) [1, 2, 3, 4] rfl

/-! ## Head / Vlq / FlushRule -/

/-- `model_head_is_translated_choice`: a fork block (`B1alt`, a second child of `G`, arrives at the state with head `B1`) -/
example := model_head_is_translated_choice exC sF _ B1alt B1alt_added
example : sF.current = some [2] ∧ ([2] : Bytes) ≠ B1alt.prev := by decide +kernel

example := translated_canonical [0x80, 0x40, 7] 64 [7] (by decide +kernel)
example := stream_deserialize_vlq_error [0x40] "DeserializationError" (by decide +kernel)
example := stream_deserialize_vlq_error [0x80] "SerializationTruncationError" (by decide +kernel)

/-- `concurrent_handover_not_lost`: `hm`, `hl` for the schedule "hand-over first, then the flush" -/
example := concurrent_handover_not_lost true (3 : Nat) [1] [2]
  ((Gen.buffer_add_effects.1.map fun y => (1, y)) ++ ((Gen.flush_effects true).1.map fun y => (0, y)))
  (by decide +kernel) (by decide +kernel)

end Ties

end NonVacuity4
