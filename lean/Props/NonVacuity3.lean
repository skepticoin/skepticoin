import Props.NonVacuity2
/-!
# NonVacuity3 — C02 from a checkpointed base

Non-vacuity of `C02.supply_bound_from` / `ValidChainFrom` with a checkpoint horizon of 1 (where `ValidChain` admits a lone genesis
block only): the base is the checkpointed block `B1` (height 1 = horizon, stored with an unspent total within the schedule), the
step is a block `B2` of height 2 assembled by the model's miner on top of it and accepted by **full** validation under the
parameters with that horizon.
-/

namespace NonVacuity3
open Model C10Converge NonVacuity2

/-- the toy parameters with the two blocks `G`, `B1` checkpointed -/
def Ph : Params := { exP with maxKnownHeight := 1, knownHashes := [(0, [1]), (1, [2])] }

-- `NonVacuity1.getOk` of Props/Toy.lean again: that namespace is not opened here, its `G`, `sG`, `m1` would clash
def getOk3 {α : Type} (x : Except Err α) (d : α) : α := match x with | .ok a => a | .error _ => d

theorem eq_ok_getOk3 {α : Type} (x : Except Err α) {d : α}
    (h : (match x with | .ok _ => true | .error _ => false) = true) : x = .ok (getOk3 x d) :=
  NonVacuity1.eq_ok_getOk d h

def m1 : ChainMgr := ⟨s1, [], some s1⟩
def cand2 : Summary × Nat × List CTx := getOk3 (minerCandidate exC Ph m1 [5] 6 0) (⟨0, [], [], 0, [], 0⟩, 0, [])
def ev2 : Evidence :=
  getOk3 (evidenceAfterScrypt exC Ph s1 (summaryHash exC cand2.1 cand2.2.1) cand2.1 cand2.2.1 cand2.2.2) ⟨[], [], []⟩
def B2 : Block := Block.fresh ⟨cand2.1, ev2⟩ cand2.2.2
def s2 : CoinState := okOr (addBlock exC Ph s1 B2 6)

/-- `B2` written out: the miner runs once, on the written-out state `s1v`; the evaluations below first rewrite to these values -/
def B2v : Block :=
  Block.fresh ⟨⟨2, [2], [], 6, [1], 0⟩, ⟨[], zeros 32, []⟩⟩ [CTx.fresh ⟨[⟨thinAir, .coinbase 2 []⟩], [⟨10, [5]⟩]⟩]
theorem B2_eq : B2 = B2v := by rw [B2, ev2, cand2, m1, s1_eq]; decide +kernel

/-- full validation of `B2`, evaluated once: the block is accepted, and the unspent total afterwards is 30 -/
theorem B2_run : NonVacuity1.isOk (addBlock exC Ph s1 B2 6) = true ∧
    (s2.utxoAt.get? (B2.id exC)).map totalValue = some 30 := by
  rw [s2, B2_eq, s1_eq]; decide +kernel

theorem B2_accepted : addBlock exC Ph s1 B2 6 = .ok s2 := eq_ok_okOr B2_run.1

theorem validFrom_B1 : C02.ValidChainFrom exC Ph s1 B1 := by
  rw [s1_eq]; exact .base _ B1 u1 rfl rfl (by decide)

theorem validFrom_B2 : C02.ValidChainFrom exC Ph s2 B2 :=
  have h : B2.prev = B1.id exC ∧ Ph.maxKnownHeight < B2.height ∧ B2.id exC ≠ B1.id exC := by rw [B2_eq]; decide
  .step s1 s2 B1 B2 6 validFrom_B1 h.1 B2_accepted h.2.1 h.2.2

/-- the bound at the validated block above the horizon: 30 = schedule(3) -/
theorem nonvacuous_C02_supply_bound_from :
    ∃ u, s2.utxoAt.get? (B2.id exC) = some u ∧ totalValue u ≤ C02.schedule Ph (B2.height + 1) :=
  C02.supply_bound_from exC Ph s2 B2 validFrom_B2

example : B2.height = 2 ∧ C02.schedule Ph 3 = 30 ∧ (s2.utxoAt.get? (B2.id exC)).map totalValue = some 30 :=
  ⟨by rw [B2_eq]; rfl, by decide, B2_run.2⟩

/-- … while under these parameters `C02.ValidChain` admits nothing beyond a genesis block -/
example (cs : CoinState) (tip : Block) (hv : C02.ValidChain exC Ph cs tip) : tip.height = 0 :=
  (C02.validChain_only_genesis_of_positive_horizon exC Ph cs tip (by decide) hv).1

end NonVacuity3
