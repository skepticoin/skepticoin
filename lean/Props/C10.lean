import Props.C09
import Proofs.Sync

/-!
# C10 — synchronisation converges and relay terminates  *(partial)*

Proved here, for every chain state, locator, batch size and delivery sequence: the shape of the
locator, the shape of the inventory reply, and that a node relays a given block (and, while its
head does not change, a given transaction) at most once. The companion files add:

* `C10Follow` — what the requester sends after an inventory (data requests, then the follow-up with `[last id]`);
* `C10Walk` — that follow-up loop against one server state lists the server's active chain, hence every block
  a requester that is behind lacks;
* `C10Fetch` — when `ChainManager.step` asks on its own initiative, whom, and that it asks again after time-outs;
* `C10Sync` — the listed blocks, applied lowest first, bring the requester's chain state up to the server's
  height, and the handler installs an answered block as `addBlockNoValidation`;
* `C10Converge` — the whole exchange of one requester with one unchanging server (`syncRun`) ends with the
  requester's head at least as high as the server's (`one_peer_sync_converges`).

Convergence under every interleaving of deliveries and timer steps with several peers is a liveness
statement that is validated by execution on the real code (harness/c10.py), not proved.
-/

namespace Model
namespace C10

variable (C : Crypto) (P : Params)

/-! ## the locator: `h, h−1, …, h−9, h−16, h−25, …`, those that are ≥ 0, newest first -/

theorem locator_starts_at_head (h : Nat) : (recentHeights h).head? = some h := by
  obtain ⟨t, ht⟩ := List.head?_eq_some_iff.1 oldness_head
  unfold recentHeights
  rw [ht]
  simp

theorem locator_strictly_decreasing (h : Nat) : (recentHeights h).Pairwise (· > ·) := by
  unfold recentHeights
  rw [List.pairwise_map]
  have hp : (oldness.filter (fun o => o ≤ h)).Pairwise (· < ·) := oldness_pairwise.filter _
  refine hp.imp_of_mem ?_
  intro a b ha hb hab
  have ha' : a ≤ h := by simpa using (List.mem_filter.mp ha).2
  have hb' : b ≤ h := by simpa using (List.mem_filter.mp hb).2
  show h - a > h - b
  omega

theorem locator_dense_range (h k : Nat) (hk : k < 10) (hle : k ≤ h) : h - k ∈ recentHeights h :=
  mem_recentHeights h k (mem_oldness_dense k hk) hle

theorem locator_sparse_range (h x : Nat) (hx : 4 ≤ x) (hx' : x < 64) (hle : x ^ 2 ≤ h) :
    h - x ^ 2 ∈ recentHeights h :=
  mem_recentHeights h (x ^ 2) (mem_oldness_sparse x hx hx') hle

theorem locator_within_chain (h x : Nat) (hx : x ∈ recentHeights h) : x ≤ h :=
  recentHeights_le h x hx

/-! ## the inventory reply: at most one batch, the active chain's ids at consecutive heights -/

/-- never more than one batch -/
theorem reply_at_most_one_batch (cs : CoinState) (loc : List Bytes) (ids : List Bytes)
    (h : inventoryReply C P cs loc = .ok ids) : ids.length ≤ P.inventorySize := by
  obtain ⟨index, hd, _, _, hcase⟩ := inventoryReply_ok C P cs loc ids h
  rcases hcase with ⟨_, rfl⟩ | ⟨start, _, hl, _⟩
  · exact Nat.zero_le _
  · omega

/-- the reply lists the ids of the blocks of the server's **active chain** at consecutive heights:
there are a start height and a by-height index of the head such that the k-th id is the id of the
block the index holds at height `start + k`, and it never goes beyond the head -/
theorem reply_is_consecutive_active_chain (cs : CoinState) (loc : List Bytes) (ids : List Bytes)
    (h : inventoryReply C P cs loc = .ok ids) :
    ∃ index hd start, cs.current.bind cs.byHeightAt.get? = some index ∧ cs.head = some hd ∧
      (ids ≠ [] → start + ids.length ≤ hd.height + 1) ∧
      ∀ k (hk : k < ids.length), ∃ blk, index.get? (start + k) = some blk ∧ ids[k] = blk.id C := by
  obtain ⟨index, hd, hidx, hhd, hcase⟩ := inventoryReply_ok C P cs loc ids h
  rcases hcase with ⟨_, rfl⟩ | ⟨start, _, hl, hk⟩
  · exact ⟨index, hd, 0, hidx, hhd, fun hne => absurd rfl hne, fun k hk => absurd hk (Nat.not_lt_zero k)⟩
  · refine ⟨index, hd, start, hidx, hhd, ?_, hk⟩
    intro hne
    have : ids.length ≠ 0 := fun h0 => hne (List.length_eq_zero_iff.mp h0)
    omega

/-- a locator none of whose entries the server knows is answered from height 1 (the block after
genesis) -/
theorem unknown_locator_answered_from_genesis (cs : CoinState) (loc : List Bytes) (ids : List Bytes)
    (hunk : ∀ x ∈ loc, cs.blocks.get? x = none) (h : inventoryReply C P cs loc = .ok ids) :
    ∃ index hd, cs.current.bind cs.byHeightAt.get? = some index ∧ cs.head = some hd ∧
      ids.length = min P.inventorySize hd.height ∧
      ∀ k (hk : k < ids.length), ∃ blk, index.get? (1 + k) = some blk ∧ ids[k] = blk.id C := by
  obtain ⟨index, hd, hidx, hhd, hcase⟩ := inventoryReply_ok C P cs loc ids h
  have hs := inventoryReply.scan_unknown cs index loc hunk
  rcases hcase with ⟨hs' | hs', _⟩ | ⟨start, hs', hl, hk⟩
  · rw [hs] at hs'; cases hs'
  · rw [hs] at hs'; cases hs'
  · rw [hs] at hs'
    cases hs'
    refine ⟨index, hd, hidx, hhd, ?_, hk⟩
    omega

/-! ## relay terminates: at most one unsolicited relay per block -/

/-- number of unsolicited `Data(block)` messages for the block with id `x` in a queue -/
def relayCount (x : Bytes) (outbox : List Out) : Nat :=
  (outbox.filter fun o => match o with | .block b r => b.id C = x && r = 0 | _ => false).length

theorem relayCount_append (x : Bytes) (o : List Out) (m : Out) :
    relayCount C x (o ++ [m]) = relayCount C x o + relayCount C x [m] := by
  unfold relayCount
  rw [List.filter_append, List.length_append]

/-- one unsolicited delivery keeps "a queue holds a relay of `x` only once `x` is known, and then just one" -/
theorem relay_step (n : Node) (c : Nat) (b : Block) (now : Int) (hinv : C09.Inv C P n) (x : Bytes)
    (h : ∀ p ∈ n.peers, relayCount C x p.outbox ≤ if n.mgr.coinstate.blocks.contains x then 1 else 0) :
    ∀ p ∈ (handleBlockReceived C P n c 0 b now).1.peers,
      relayCount C x p.outbox ≤ if (handleBlockReceived C P n c 0 b now).1.mgr.coinstate.blocks.contains x then 1 else 0 := by
  -- the claim looks at the queues only
  have tomap : ∀ (k : Nat) (l : List PeerSt),
      (∀ p ∈ l, relayCount C x p.outbox ≤ k) ↔ ∀ o ∈ l.map (·.outbox), relayCount C x o ≤ k :=
    fun k l => (List.forall_mem_map (f := PeerSt.outbox) (P := fun o => relayCount C x o ≤ k)).symm
  rw [tomap]
  rcases C09.handleBlockReceived_unsolicited C P n c b now hinv with h' | ⟨changed, hd, hk, -, hstep, -, h'⟩ <;> rw [h']
  · have hup : (n.updatePeer c fun p =>
        { p with pendingInventory := p.pendingInventory.erase (b.id C) }).peers.map (·.outbox)
        = n.peers.map (·.outbox) := updatePeer_map n c _ _ (fun _ => rfl)
    rw [hup, ← tomap]
    exact h
  · rw [BlockVerdict.exec_accept_mgr, BlockVerdict.exec_accept_outboxes, List.forall_mem_map]
    show ∀ p ∈ n.peers, _ ≤ if changed.blocks.contains x then 1 else 0
    -- `x` is known afterwards iff it is `b`'s id or was known: the bound becomes `if decide (b.id C = x) || … then 1 else 0`;
    -- the queue of `p` is `if relay && p.active then p.outbox ++ [Out.block b 0] else p.outbox`
    rw [add_ok_contains C hstep x]
    intro p hp
    have hp' := h p hp
    by_cases hx : b.id C = x
    · -- `x` itself arrives: it was unknown, so the queue held no relay of it
      subst hx
      rw [hk] at hp'
      split -- on the queue: does `p` get the relay?
      · rw [relayCount_append, Nat.le_zero.mp hp']
        simp only [relayCount, List.filter_cons]
        split <;> simp -- on the filter's test of the one new message
      · exact Nat.le_trans hp' (by simp)
    · -- another block: its relay does not count, and what is known of `x` has not changed
      have hnr : relayCount C x [Out.block b 0] = 0 := by simp [relayCount, hx]
      simp only [hx, decide_false, Bool.false_or]
      split -- on the queue, as above
      · rw [relayCount_append, hnr]; exact hp'
      · exact hp'

/-- in every sequence of unsolicited block deliveries to a node (valid, invalid, duplicates,
orphans, in any order, from any connections), starting from a state in which block `x` is not
yet known and has not been relayed, every peer's queue ends up with at most one unsolicited
`Data(block x)` — relay traffic for a block stops instead of echoing -/
theorem block_relayed_at_most_once (n : Node) (ds : List (Nat × Block × Int)) (hinv : C09.Inv C P n)
    (x : Bytes) (hunknown : n.mgr.coinstate.blocks.contains x = false)
    (hnone : ∀ p ∈ n.peers, relayCount C x p.outbox = 0) :
    ∀ p ∈ (C09.deliverAll C P n ds).peers, relayCount C x p.outbox ≤ 1 := by
  -- `hunknown` is not needed for the bound: `hnone` alone already gives the invariant's base case
  have _ := hunknown
  -- the invariant of `relay_step` holds along the sequence; at the end it gives the bound
  have hall := C09.deliverAll_ind C P (fun n c b now hi h => relay_step C P n c b now hi x h) ds n hinv
    fun p hp => by rw [hnone p hp]; exact Nat.zero_le _
  exact fun p hp => Nat.le_trans (hall p hp) (by split <;> omega)

/-! ## a transaction is relayed when it is admitted, and only then -/

/-- the handler's test `transaction in transaction_pool` -/
theorem pending_iff (pool : List CTx) (t : CTx) : pool.any (fun x => x.tx = t.tx) = true ↔ t.tx ∈ pool.map (·.tx) := by
  simp only [List.any_eq_true, decide_eq_true_eq, List.mem_map]

/-- a transaction that is already pending is not relayed again (the second receipt of a
transaction has no effect at all) -/
theorem pending_transaction_not_relayed_again (n : Node) (t : CTx) (hin : t.tx ∈ n.mgr.pool.map (·.tx)) :
    handleTxReceived C P n t = (n, none) :=
  handleTxReceived_pending C P ((pending_iff _ t).mpr hin)

/-- a transaction is relayed exactly when it is admitted to the pool, to every greeted peer once -/
theorem transaction_relayed_iff_admitted (n : Node) (t : CTx) (hnew : t.tx ∉ n.mgr.pool.map (·.tx)) :
    (∃ m, addTxToPool C P n.mgr t = .ok (m, true) ∧
      (handleTxReceived C P n t).1.peers.map (·.outbox.length) =
        n.peers.map (fun p => if p.active then p.outbox.length + 1 else p.outbox.length)) ∨
    ((∀ m, addTxToPool C P n.mgr t ≠ .ok (m, true)) ∧
      (handleTxReceived C P n t).1.peers = n.peers) := by
  -- the ends of `handleTxReceived`: 1 already pending, 2 the pool raises, 3 admitted, 4 refused
  fun_cases handleTxReceived C P n t with
  | case1 hpend => exact absurd ((pending_iff _ t).mp hpend) hnew
  | case2 _ e he => exact .inr ⟨fun m hm => (by rw [he] at hm; cases hm), rfl⟩
  | case3 _ m hm => exact .inl ⟨m, hm, broadcast_outbox_length _ _⟩
  | case4 _ m' hm' => exact .inr ⟨fun m hm => (by rw [hm'] at hm; cases hm), rfl⟩

/-! ## non-vacuity -/

example : recentHeights 30 = [30, 29, 28, 27, 26, 25, 24, 23, 22, 21, 14, 5] := by decide

example : recentHeights 3 = [3, 2, 1, 0] := by decide

end C10
end Model
