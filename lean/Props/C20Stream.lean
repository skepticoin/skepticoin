import Props.C20
/-!
# C20 at the level of whole streams, interleaved with the traffic of other connections

`Props/C20.lean` shows, event by event, that malformed input changes nothing but the connection it arrives on. Here the same is
stated for every *history*: the events of one connection `c` — each of them anything but an accepted block or an admitted
transaction — interleaved in any way with arbitrary events (valid or not) on the other connections. The node ends with exactly
the chain state, pending pool, write buffer, store and other connections it would have had if connection `c` had never sent
anything:

* `noninterference_step`: handling an event of another connection does not look at connection `c`;
* `stream_contained`: a whole stream on `c` alone is contained;
* `interleaved_contained`: the interleaving theorem.
-/

namespace Model
namespace C20

variable (C : Crypto) (P : Params)

/-- the two nodes agree on everything except the state of connection `c` -/
def EqExcept (c : Nat) (a b : Node) : Prop :=
  a.mgr = b.mgr ∧ a.wbuf = b.wbuf ∧ a.disk = b.disk ∧ a.nonce = b.nonce ∧ a.peers.length = b.peers.length ∧
  ∀ j, j ≠ c → a.peers[j]? = b.peers[j]?

-- definitionally, so the lemmas of `EqExceptAt` are applied to `EqExcept` directly below
/-- `EqExcept` is `EqExceptAt` of `Proofs/Contain.lean` -/
theorem eqExcept_iff_at (c : Nat) (a b : Node) : EqExcept c a b ↔ EqExceptAt c a b := Iff.rfl

/-- what the property's "malformed input" covers, and more: everything a peer can send except a block that is accepted and a
transaction that is admitted — garbage, broken frames, a close; a message whose handling raises (unknown types, out of protocol
order, …); a rejected unsolicited block (while no bulk download is in progress: `C09.Inv`); a rejected transaction; and any
message that is neither a block nor a transaction -/
def MalformedAt (n : Node) (c : Nat) (ev : Incoming) (now : Int) : Prop :=
  match ev with
  | .msg i r m =>
    (∃ e, (handleMessage C P n c i r m now).2 = some e) ∨
    (∃ b, m = .dataBlock b ∧ r = 0 ∧ C09.Inv C P n ∧ ∀ cs', addBlock C P n.mgr.coinstate b now ≠ .ok cs') ∨
    (∃ t, m = .dataTx t ∧ ∀ m', addTxToPool C P n.mgr t ≠ .ok (m', true)) ∨
    (match m with | .dataBlock _ => False | .dataTx _ => False | _ => True)
  | _ => True

/-- along the history, every event of connection `c` is malformed in the state in which it arrives -/
def AllMalformedOn (c : Nat) : Node → List Ev → Prop
  | _, [] => True
  | n, (d, ev, now) :: rest => (d = c → MalformedAt C P n c ev now) ∧ AllMalformedOn c (handleEvent C P n d ev now) rest

theorem EqExcept.symm {c : Nat} {a b : Node} (h : EqExcept c a b) : EqExcept c b a := EqExceptAt.symm h

/-- a malformed event leaves everything but its own connection as it was -/
theorem malformed_step (n : Node) (c : Nat) (ev : Incoming) (now : Int) (h : MalformedAt C P n c ev now) :
    EqExcept c (handleEvent C P n c ev now) n := by
  refine handleEvent_local C P n c ev now fun i r m hev => ?_
  subst hev
  rcases h with ⟨e, he⟩ | ⟨b, rfl, rfl, hinv, hrej⟩ | ⟨t, rfl, hrej⟩ | hm
  · exact handleMessage_err_local C P n c i r m now e he
  · exact handleMessage_rejected_block_local C P n c i b now hinv hrej
  · exact handleMessage_rejected_tx_local C P n c i r t now hrej
  · exact handleMessage_protocol_local C P n c i r m now hm

/-- handling an event of connection `d ≠ c` neither reads nor writes anything of connection `c` beyond queueing broadcasts to
it: nodes that differ only in `c` still differ only in `c` afterwards -/
theorem noninterference_step (a b : Node) (c d : Nat) (hd : d ≠ c) (h : EqExcept c a b) (ev : Incoming) (now : Int) :
    EqExcept c (handleEvent C P a d ev now) (handleEvent C P b d ev now) := by
  cases ev with
  | msg i r m =>
    -- the message has the same effect and the same exception on both sides, so the catch-all acts alike
    obtain ⟨h1, h2⟩ := handleMessage_eqExcept C P a b c d hd i r m now h
    rw [handleEvent_msg, handleEvent_msg, ← h2]
    cases (handleMessage C P a d i r m now).2 with
    | none => exact h1
    | some e => exact h1.disconnect d
  | undecodable | badFrame | closed => exact EqExceptAt.disconnect h d

/-- the interleaving theorem for two nodes that already differ in `c` only: the form the induction needs -/
theorem interleaved_contained_gen (c : Nat) (tr : List Ev) (a b : Node) (h : EqExcept c a b)
    (hm : AllMalformedOn C P c a tr) : EqExcept c (run C P a tr) (run C P b (tr.filter fun e => e.1 ≠ c)) := by
  -- `AllMalformedOn` of the empty history, and of the event `ev` on connection `d` followed by `rest`
  fun_induction AllMalformedOn C P c a tr generalizing b with
  | case1 => exact h
  | case2 a d ev now _ ih =>
    obtain ⟨hm1, hm2⟩ := hm
    by_cases hd : d = c
    · subst hd
      rw [List.filter_cons_of_neg (by simp)]
      exact ih b (EqExceptAt.trans (malformed_step C P a d ev now (hm1 rfl)) h) hm2
    · rw [List.filter_cons_of_pos (by simpa using hd)]
      exact ih _ (noninterference_step C P a b c d hd h ev now) hm2

/-- **C20 for histories**: whatever the other connections send and however the two are interleaved, the node ends as if
connection `c` had sent nothing -/
theorem interleaved_contained (n : Node) (c : Nat) (tr : List Ev) (hm : AllMalformedOn C P c n tr) :
    EqExcept c (run C P n tr) (run C P n (tr.filter fun e => e.1 ≠ c)) :=
  interleaved_contained_gen C P c tr n n (EqExceptAt.refl c n) hm

/-- a whole stream of malformed events on one connection -/
theorem stream_contained (n : Node) (c : Nat) (tr : List Ev) (hc : ∀ e ∈ tr, e.1 = c)
    (hm : AllMalformedOn C P c n tr) : EqExcept c (run C P n tr) n := by
  have h := interleaved_contained C P n c tr hm
  rwa [List.filter_eq_nil_iff.mpr fun e he => by simp [hc e he]] at h

private def sPeer : PeerSt := ⟨true, false, true, true, [], false, []⟩
private def sNode : Node := ⟨⟨CoinState.empty, [], some CoinState.empty⟩, [], [], [sPeer, sPeer], 7⟩

/-- garbage, a header payload, a peer query and a close on connection 0, interleaved with two queries on connection 1: the
hypothesis holds, connection 1 got its two answers -/
private def sTrace : List Ev :=
  [(0, .msg 1 0 .getPeers, 0), (1, .msg 1 0 .getPeers, 0), (0, .msg 2 0 .dataHeader, 0), (1, .msg 2 0 .getPeers, 0),
   (0, .undecodable, 0), (0, .closed, 0)]

theorem sTrace_malformed : AllMalformedOn C P 0 sNode sTrace :=
  ⟨fun _ => .inr (.inr (.inr trivial)), fun h => absurd h (by decide), fun _ => .inr (.inr (.inr trivial)),
   fun h => absurd h (by decide), fun _ => trivial, fun _ => trivial, trivial⟩

example : AllMalformedOn C P 0 sNode sTrace := sTrace_malformed C P

-- by `interleaved_contained`, connection 1 sees the run of its own two events
example : ((run C P sNode sTrace).peers[1]?).map (·.outbox.length) = some 2 := by
  rw [(interleaved_contained C P sNode 0 sTrace (sTrace_malformed C P)).2.2.2.2.2 1 (by decide)]
  rfl

end C20
end Model
