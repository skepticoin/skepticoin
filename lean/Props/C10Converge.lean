import Props.C10Sync
import Props.Toy

/-!
# C10 (continued) — one requester, one server: the whole exchange converges

`syncRun` is the message exchange between a requesting node and one server whose chain state does not change meanwhile, round
by round, as the handlers perform it:

* the server answers the locator with an inventory batch (`inventoryReply`);
* the requester asks for the data of every listed block it does not store (`C10Follow.inventory_followup`: exactly these
  requests, in this order, then the follow-up request with the locator `[last listed id]`);
* the server sends the blocks it stores for those requests, in order (`handleMessage … (.getData …)`);
* the requester's block handler processes them as answers (`in_response_to ≠ 0`);
* the next round starts from `[last listed id]`; an empty batch ends the exchange.

`one_peer_sync_converges`: for a requester and a server built from well-formed histories with the same genesis and no id
collision between them, whose blocks pass the by-itself validation at the requester's clock and lie at heights where bulk download
does not validate, the exchange started with the requester's own locator ends — given fuel for the server's height — with the
requester's head at least as high as the server's.

The two hypotheses about the delivered blocks (`hvalid`, `hskip`) are asked only of the server's blocks that are *not in the
requester's history* — the only ones ever delivered. Asked of the whole server history, `hskip` could never hold (the genesis
block has height 0 and `0 % IBD_VALIDATION_SKIP = 0`: `hskip_on_whole_history_is_false`), and the theorem would be vacuous; the
`example` at the end shows that the hypotheses as stated are satisfiable and that `syncRun` then ends at the server's height.
Not covered: an exchange that crosses a height divisible by `IBD_VALIDATION_SKIP` (10,000 in production), where the handler
validates the block fully.

Proof: invariant `Inv` over rounds (the requester's state is built from a well-formed history `ds ⊇ rs` without id collision
with the server's, containing every active-chain block of the server below height `k`), its step `Inv.next` (one block of the
server's active chain) and `Inv.run` (one round: the blocks `wanted` by the state at its beginning can be added in order, `Adds`)
are in `Proofs/CatchUp.lean`; `Adds.deliver` says that the handler performs such additions, `batch` is one round of deliveries,
`rounds_of_reply` the induction on the fuel.
-/

namespace C10Converge
open Model

variable (C : Crypto) (P : Params)

theorem syncRun_zero (srv : CoinState) (c : Nat) (now : Int) (n : Node) (loc : List Bytes) :
    syncRun C P srv c now 0 n loc = n := rfl

theorem syncRun_nil (srv : CoinState) (c : Nat) (now : Int) (fuel : Nat) (n : Node) (loc : List Bytes)
    (h : inventoryReply C P srv loc = .ok []) : syncRun C P srv c now fuel n loc = n := by
  cases fuel with
  | zero => rfl
  | succ fuel => simp only [syncRun, h]

theorem syncRun_succ_cons (srv : CoinState) (c : Nat) (now : Int) (fuel : Nat) (n : Node)
    (loc ids : List Bytes) (last : Bytes)
    (h : inventoryReply C P srv loc = .ok ids) (hl : ids.getLast? = some last) :
    syncRun C P srv c now (fuel + 1) n loc =
      syncRun C P srv c now fuel
        (deliver C P n c (serveData srv (ids.filter fun x => !n.mgr.coinstate.blocks.contains x)) now)
        [last] := by
  cases ids with
  | nil => cases hl
  | cons i rest =>
    have hl' : (i :: rest).getLast! = last := List.getLast!_of_getLast? hl
    simp only [syncRun, h, hl']

theorem deliver_append (n : Node) (c : Nat) (l₁ l₂ : List Block) (now : Int) :
    deliver C P n c (l₁ ++ l₂) now = deliver C P (deliver C P n c l₁ now) c l₂ now := by
  simp [deliver, List.foldl_append]

theorem serveData_append (srv : CoinState) (l₁ l₂ : List Bytes) :
    serveData srv (l₁ ++ l₂) = serveData srv l₁ ++ serveData srv l₂ := by
  simp [serveData, List.filterMap_append]

/-- answered blocks that can be added in order, pass the by-itself validation and lie off the bulk-validation heights are
added by the handler -/
theorem Adds.deliver {n : Node} {l : List Block} {s' : CoinState} (c : Nat) (now : Int)
    (A : Adds C n.mgr.coinstate l s')
    (hok : ∀ b ∈ l, validateBlockByItself C P b now = .ok () ∧ b.height % P.ibdValidationSkip ≠ 0) :
    (deliver C P n c l now).mgr.coinstate = s' := by
  induction A with
  | nil => rfl
  | @snoc s₁ s₂ l a _ hnew hparent hadd ih =>
    rw [List.forall_mem_append, List.forall_mem_singleton] at hok
    obtain rfl := ih hok.1
    rw [deliver_append]
    exact (C10Sync.solicited_delivery_is_add C P _ c 1 a now s₂ (by decide) hnew hparent hok.2.1 hok.2.2 hadd).2.1

section Rounds
variable {ss : List Block} {srv : CoinState} {index : Map Nat Block} {hd : Block}

/-- the server's answers to the requests of a requester in state `s₀` that is offered the heights `a ≤ h < b` -/
theorem serveData_wanted (W : C10Walk.ActiveChain C srv index hd) (s₀ : CoinState) {a b : Nat} (hab : a ≤ b) :
    b ≤ hd.height + 1 →
    serveData srv ((C10Walk.chainIds C index a b).filter fun x => !s₀.blocks.contains x) = wanted C s₀ index a b := by
  induction hab with
  | refl =>
    rw [C10Walk.chainIds_of_le C index (Nat.le_refl _), wanted, Nat.sub_self]
    exact fun _ => rfl
  | @step k hk ih =>
    intro hb
    obtain ⟨x, hx⟩ := W.full k (by omega)
    rw [C10Walk.chainIds_succ C index hk, C10Walk.idAt_of_some C hx, wanted_succ hk hx, ← ih (by omega),
      List.filter_append, serveData_append]
    by_cases hc : s₀.blocks.contains (x.id C) = true <;> simp [serveData, hc, (W.stored k x hx).1]

/-- one round: the server's answers to what the node `n` asks for when offered the heights `start ≤ h < stop` are delivered to
it; `Inv` then holds at `stop`, of a history that still contains `rs` -/
theorem batch (Bs : C10Walk.Built C ss srv index hd)
    (hwfs : WFArrivals C ss) (hfs : foldBlocks C .empty ss = .ok srv)
    (c : Nat) (now : Int)
    (rs : List Block)
    (hvalid : ∀ b ∈ ss, b ∉ rs → validateBlockByItself C P b now = .ok ())
    (hskip : ∀ b ∈ ss, b ∉ rs → b.height % P.ibdValidationSkip ≠ 0)
    (n : Node) (ds : List Block) (hrs : ∀ a ∈ rs, a ∈ ds) (start : Nat) (h1 : 1 ≤ start)
    (I : Inv C ss index n.mgr.coinstate ds start) (stop : Nat) (hle : start ≤ stop) (hstop : stop ≤ hd.height + 1) :
    ∃ ds', (∀ a ∈ rs, a ∈ ds') ∧
      Inv C ss index (deliver C P n c (serveData srv ((C10Walk.chainIds C index start stop).filter
          fun x => !n.mgr.coinstate.blocks.contains x)) now).mgr.coinstate ds' stop := by
  obtain ⟨s, A, I'⟩ := I.run Bs hwfs hfs (fun x hx => I.below 0 x h1 hx) hle hstop
  rw [serveData_wanted C Bs.chain _ hle hstop, A.deliver C P c now fun b hb => ?_]
  · exact ⟨_, fun a ha => List.mem_append_left _ (hrs a ha), I'⟩
  · -- what is asked for is the server's and was not stored when the round began, so it is not a block of `rs`
    obtain ⟨hst, k, -, hg⟩ := mem_wanted hb
    have hbs : b ∈ ss := Bs.mem k b hg
    have hbr : b ∉ rs := fun h => Bool.false_ne_true (hst ▸ (I.mem_iff hbs).1 (hrs b h))
    exact ⟨hvalid b hbs hbr, hskip b hbs hbr⟩

/-- the rounds from a reply that is the batch from `start`: the induction on the fuel of `C10Walk.walk_of_reply` (`next_batch`
gives the end `k` of the batch and the reply to the follow-up `[x.id]`), with `batch` carrying `Inv` from `start` to `k + 1` -/
theorem rounds_of_reply (Bs : C10Walk.Built C ss srv index hd)
    (hwfs : WFArrivals C ss) (hfs : foldBlocks C .empty ss = .ok srv)
    (c : Nat) (now : Int)
    (rs : List Block)
    (hvalid : ∀ b ∈ ss, b ∉ rs → validateBlockByItself C P b now = .ok ())
    (hskip : ∀ b ∈ ss, b ∉ rs → b.height % P.ibdValidationSkip ≠ 0)
    (hinv : 0 < P.inventorySize) : ∀ (fuel : Nat) (n : Node) (ds : List Block) (start : Nat) (loc : List Bytes),
    (∀ a ∈ rs, a ∈ ds) → 1 ≤ start → Inv C ss index n.mgr.coinstate ds start →
    inventoryReply C P srv loc =
      .ok (C10Walk.chainIds C index start (min (start + P.inventorySize) (hd.height + 1))) →
    hd.height + 1 ≤ start + fuel →
    ∃ ds', Inv C ss index (syncRun C P srv c now fuel n loc).mgr.coinstate ds' (hd.height + 1) := by
  intro fuel
  induction fuel with
  | zero =>
    intro n ds start loc _ _ I _ hf
    exact ⟨ds, I.mono hf⟩
  | succ fuel ih =>
    intro n ds start loc hrs h1 I hr hf
    by_cases ha : hd.height < start
    · rw [C10Walk.chainIds_of_le C index (by omega)] at hr
      rw [syncRun_nil C P srv c now (fuel + 1) n loc hr]
      exact ⟨ds, I.mono ha⟩
    · obtain ⟨k, x, hsk, hk, hb, hl, hn⟩ := Bs.chain.next_batch C P hinv (Nat.le_of_not_lt ha)
      rw [hb] at hr
      rw [syncRun_succ_cons C P srv c now fuel n loc _ _ hr hl]
      obtain ⟨ds', hrs', I'⟩ := batch C P Bs hwfs hfs c now rs hvalid hskip n ds hrs start h1 I (k + 1)
        (Nat.le_succ_of_le hsk) (Nat.succ_le_succ hk)
      exact ih _ ds' (k + 1) [x.id C] hrs' (Nat.succ_pos k) I' hn (by omega)

/-- the rounds from a locator for which the server's scan yields `start`, all active-chain blocks below `start` being in the
requester's history: at the end the whole active chain is -/
theorem rounds (Bs : C10Walk.Built C ss srv index hd)
    (hwfs : WFArrivals C ss) (hfs : foldBlocks C .empty ss = .ok srv)
    (c : Nat) (now : Int)
    (rs : List Block)
    (hvalid : ∀ b ∈ ss, b ∉ rs → validateBlockByItself C P b now = .ok ())
    (hskip : ∀ b ∈ ss, b ∉ rs → b.height % P.ibdValidationSkip ≠ 0)
    (hinv : 0 < P.inventorySize) : ∀ (fuel : Nat) (n : Node) (ds : List Block) (start : Nat) (loc : List Bytes),
    (∀ a ∈ rs, a ∈ ds) → 1 ≤ start → Inv C ss index n.mgr.coinstate ds start →
    inventoryReply.scan srv index loc = some (some start) → hd.height + 1 - start ≤ fuel →
    ∃ ds', Inv C ss index (syncRun C P srv c now fuel n loc).mgr.coinstate ds' (hd.height + 1) :=
  fun fuel n ds start loc hrs h1 I hs hf =>
    rounds_of_reply C P Bs hwfs hfs c now rs hvalid hskip hinv fuel n ds start loc hrs h1 I
      (C10Walk.reply_of_scan_start C P Bs.chain hs) (by omega)

end Rounds

theorem one_peer_sync_converges (rs ss : List Block) (req srv : CoinState)
    (hwfr : WFArrivals C rs) (hfr : foldBlocks C .empty rs = .ok req)
    (hwfs : WFArrivals C ss) (hfs : foldBlocks C .empty ss = .ok srv)
    (hgen : rs.head? = ss.head?)
    -- no id collision between the two histories: equal ids mean equal blocks
    (hsame : ∀ a ∈ rs, ∀ b ∈ ss, a.id C = b.id C → a = b)
    (index : Map Nat Block) (hd : Block)
    (hidx : srv.current.bind srv.byHeightAt.get? = some index) (hhd : srv.head = some hd)
    (n : Node) (c : Nat) (now : Int) (hn : n.mgr.coinstate = req)
    -- the server's blocks that are not in the requester's history pass the requester's by-itself validation now, and none of
    -- them lies at a height where bulk download validates
    (hvalid : ∀ b ∈ ss, b ∉ rs → validateBlockByItself C P b now = .ok ())
    (hskip : ∀ b ∈ ss, b ∉ rs → b.height % P.ibdValidationSkip ≠ 0)
    (hinv : 0 < P.inventorySize) (fuel : Nat) (hfuel : hd.height + 1 ≤ fuel)
    (loc : List Bytes) (hloc : locator C req = .ok loc) :
    ∃ hd', (syncRun C P srv c now fuel n loc).mgr.coinstate.head = some hd' ∧ hd.height ≤ hd'.height := by
  subst hn
  have Bs := C10Walk.built C hwfs hfs hidx hhd
  obtain ⟨rindex, rhd, Br⟩ := C10Walk.built_exists C hwfr hfr
  have hcompat : ∀ a ∈ rs, ∀ b ∈ ss, a.id C = b.id C → a.prev = b.prev ∧ a.height = b.height :=
    fun a ha b hb e => hsame a ha b hb e ▸ ⟨rfl, rfl⟩
  rcases C10Walk.scan_own_locator C Bs Br hcompat hgen loc hloc with ⟨start, h1, hs, hag⟩ | ⟨hs, hle⟩
  · -- below `start` the two active chains hold the same blocks
    have I : Inv C ss index n.mgr.coinstate rs start := by
      refine ⟨hwfr, hfr, hsame, fun j x hj hx => ?_⟩
      obtain ⟨a, b, ha, hb, hab⟩ := hag j hj
      cases ha.symm.trans hx
      have hbr := Br.mem j b hb
      exact hsame b hbr x (Bs.mem j x hx) hab.symm ▸ hbr
    obtain ⟨ds', I'⟩ := rounds C P Bs hwfs hfs c now rs hvalid hskip hinv fuel n rs start loc (fun a ha => ha) h1 I hs
      (by omega)
    exact I'.head_ge Bs
  · rw [syncRun_nil C P srv c now fuel n loc (C10Walk.reply_of_scan_none C P Bs.chain hs)]
    exact ⟨rhd, Br.chain.head, hle⟩

/-! ## why `hskip` is asked of the missing blocks only -/

/-- `hskip` over the *whole* server history cannot hold: the history starts with a block of height 0, and
`0 % IBD_VALIDATION_SKIP = 0` -/
theorem hskip_on_whole_history_is_false (ss : List Block) (srv : CoinState)
    (hwfs : WFArrivals C ss) (hfs : foldBlocks C .empty ss = .ok srv) :
    ¬ ∀ b ∈ ss, b.height % P.ibdValidationSkip ≠ 0 := by
  intro h
  obtain ⟨index, hd, B⟩ := C10Walk.built_exists C hwfs hfs
  obtain ⟨g, hg⟩ := B.chain.full 0 (Nat.zero_le _)
  have hgh := (B.chain.stored 0 g hg).2
  exact h g (B.mem 0 g hg) (by rw [hgh, Nat.zero_mod])

/-! ## non-vacuity -/

section Examples

/-! the instance: `exC`, `exP` and the chain `exG ← exA ← exA2` of `Props/Toy.lean` -/

theorem exWF_GAA : WFArrivals exC [exG, exA, exA2] := .of_decide _ (by decide)

theorem exValid_A : validateBlockByItself exC exP exA 0 = .ok () := by decide +kernel
theorem exValid_A2 : validateBlockByItself exC exP exA2 0 = .ok () := by decide +kernel

/-- the hypotheses of `one_peer_sync_converges` are satisfiable and the exchange does what it says: requester `G`,
server `G ← A ← A2`, batch size 1; after three rounds the requester's head is at height 2 -/
example : ∃ (req srv : CoinState) (index : Map Nat Block) (hd : Block) (loc : List Bytes) (n : Node),
    WFArrivals exC [exG] ∧ foldBlocks exC .empty [exG] = .ok req ∧
    WFArrivals exC [exG, exA, exA2] ∧ foldBlocks exC .empty [exG, exA, exA2] = .ok srv ∧
    [exG].head? = [exG, exA, exA2].head? ∧
    (∀ a ∈ [exG], ∀ b ∈ [exG, exA, exA2], a.id exC = b.id exC → a = b) ∧
    srv.current.bind srv.byHeightAt.get? = some index ∧ srv.head = some hd ∧ hd.height = 2 ∧
    n.mgr.coinstate = req ∧
    (∀ b ∈ [exG, exA, exA2], b ∉ [exG] → validateBlockByItself exC exP b 0 = .ok ()) ∧
    (∀ b ∈ [exG, exA, exA2], b ∉ [exG] → b.height % exP.ibdValidationSkip ≠ 0) ∧
    0 < exP.inventorySize ∧ locator exC req = .ok loc ∧
    (syncRun exC exP srv 0 0 3 n loc).mgr.coinstate.head.map (·.height) = some 2 := by
  refine ⟨_, _, _, _, _, ⟨⟨_, [], none⟩, [], [], [], 0⟩, .of_decide _ (by decide), rfl, exWF_GAA, rfl, rfl, by decide, rfl, rfl, rfl, rfl,
    ?_, by decide, by decide, rfl, by decide +kernel⟩
  intro b hb hnb
  simp only [List.mem_cons, List.not_mem_nil, or_false] at hb hnb
  rcases hb with rfl | rfl | rfl
  · exact absurd rfl hnb
  · exact exValid_A
  · exact exValid_A2

end Examples

end C10Converge
