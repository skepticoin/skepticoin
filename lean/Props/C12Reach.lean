import Props.C12
import Proofs.Built

/-!
# C12 (continued) — the two chain-state hypotheses of `assembled_block_valid_partial` hold for
every chain state built from a well-formed arrival history

(instances: `Props/NonVacuity1.lean`)
-/

namespace Model
namespace C12

variable (C : Crypto) (P : Params)

theorem built_state_current_mem (bs : List Block) (s : CoinState) (hwf : WFArrivals C bs)
    (hf : foldBlocks C .empty bs = .ok s) : ∃ x ∈ bs, s.current = some (x.id C) := by
  obtain ⟨m, hm, hcur, -⟩ := (hist C hwf hf).head (hwf.facts C)
  exact ⟨m, hm, hcur⟩

theorem built_state_index_all (bs : List Block) (s : CoinState) (hwf : WFArrivals C bs)
    (hf : foldBlocks C .empty bs = .ok s) (b : Block) (hb : b ∈ bs) :
    s.byHeightAt.get? (b.id C) ≠ none := by
  obtain ⟨idx, hidx, -⟩ := (hist C hwf hf).index b hb
  rw [hidx]
  exact nofun

/-- in a state built by `add_block_no_validation` from a well-formed arrival history the head's
id is not the all-zero parent reference of a genesis block … -/
theorem built_state_head_not_zero (bs : List Block) (s : CoinState) (hwf : WFArrivals C bs)
    (hf : foldBlocks C .empty bs = .ok s) : s.current ≠ some (zeros 32) := by
  obtain ⟨x, hx, hcur⟩ := built_state_current_mem C bs s hwf hf
  rw [hcur]
  intro h
  exact (hwf.facts C).nz x hx (Option.some.inj h)

/-- … and the by-height index of the head is stored -/
theorem built_state_head_index (bs : List Block) (s : CoinState) (hwf : WFArrivals C bs)
    (hf : foldBlocks C .empty bs = .ok s) : s.current.bind s.byHeightAt.get? ≠ none := by
  obtain ⟨x, hx, hcur⟩ := built_state_current_mem C bs s hwf hf
  rw [hcur, Option.bind_some]
  exact built_state_index_all C bs s hwf hf x hx

/-- hence: for every chain state built from a well-formed history, every pool satisfying the pool
invariant, and every clock, the block the miner assembles passes the node's own full validation
once its id is below target — provided it fits in one block, is above the checkpoint horizon and
its timestamp is at most 30 s ahead of the validating clock (the known finding D5 otherwise) -/
theorem assembled_block_valid_on_built_states (bs : List Block) (m : ChainMgr)
    (hwf : WFArrivals C bs) (hf : foldBlocks C .empty bs = .ok m.coinstate)
    (pk : Bytes) (clock nonce : Nat) (s : Summary) (h : Nat) (txs : List CTx) (now : Int)
    (hpool : C13.PoolInv C P m)
    (hc : minerCandidate C P m pk clock nonce = .ok (s, h, txs))
    (ev : Evidence) (hev : evidenceAfterScrypt C P m.coinstate (summaryHash C s h) s h txs = .ok ev)
    (hpow : bytesLt (C.sha256d (encHeader ⟨s, ev⟩)) s.target = true)
    (hclock : (s.timestamp : Int) ≤ now + P.maxFutureBlockTime)
    (hsize : (encBlock (Block.fresh ⟨s, ev⟩ txs)).length ≤ P.maxBlockSize)
    (hhor : P.maxKnownHeight < (h : Int)) (hint : 0 < P.retargetInterval) :
    ∃ cs', addBlock C P m.coinstate (Block.fresh ⟨s, ev⟩ txs) now = .ok cs' :=
  assembled_block_valid_partial C P m pk clock nonce s h txs now hpool hc ev hev hpow hclock hsize
    hhor hint (built_state_head_not_zero C bs m.coinstate hwf hf)
    (built_state_head_index C bs m.coinstate hwf hf)

end C12
end Model
