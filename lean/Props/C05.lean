import Proofs.Validation
import Proofs.Codec
import Gen.Params

/-!
# C05 — header rules: proof of work, difficulty, height and time
-/

namespace Model
namespace C05

variable (C : Crypto) (P : Params)

/-- Python compares the 32-byte id with the 32-byte target as byte strings (lexicographically);
for strings of equal length that is the numeric comparison of the big-endian values -/
theorem bytesLt_iff_lt : ∀ (a b : Bytes), a.length = b.length →
    (bytesLt a b = true ↔ bytesToNat a < bytesToNat b) := by
  intro a b hl
  -- the ends of `bytesLt`: 1 both strings are empty; 2, 3 one of them is; the first bytes are 4 `x < y`, 5 `y < x`, 6 equal
  fun_induction bytesLt a b with
  | case1 => simp
  | case2 | case3 => simp at hl
  | case4 x xs y ys h1 => exact iff_of_true rfl (Codec.bytesToNat_cons_lt (Nat.succ.inj hl) h1)
  | case5 x xs y ys _ h2 =>
    exact iff_of_false nofun (Nat.lt_asymm (Codec.bytesToNat_cons_lt (Nat.succ.inj hl).symm h2))
  | case6 x xs y ys h1 h2 ih =>
    have hl' : xs.length = ys.length := Nat.succ.inj hl
    obtain rfl : x = y := UInt8.le_antisymm (UInt8.not_lt.1 h2) (UInt8.not_lt.1 h1)
    rw [ih hl', Codec.bytesToNat_cons, Codec.bytesToNat_cons, hl']
    omega

/-- what full validation established about the header of an accepted block -/
theorem accept_header_rules (cs cs' : CoinState) (b : Block) (now : Int)
    (h : addBlock C P cs b now = .ok cs') (hz : P.maxKnownHeight < b.height) :
    -- its id (recomputed from the header) is below its stated target
    bytesLt (C.sha256d (encHeader b.header)) b.target = true ∧
    -- at most MAX_FUTURE_BLOCK_TIME ahead of the validator's clock
    (b.timestamp : Int) ≤ now + P.maxFutureBlockTime ∧
    -- parent known; height is the parent's plus one; timestamp strictly later than the parent's;
    -- the stated target is the one the retargeting rule prescribes from the block's own ancestors
    (∃ pb, cs.blocks.get? b.prev = some pb ∧ b.height = pb.height + 1 ∧ pb.timestamp < b.timestamp ∧
      calcTarget C P cs b.height b.timestamp pb = .ok b.target) ∧
    -- the height recorded in the reward transaction is the block's height
    (∃ cb rest d, b.txs = cb :: rest ∧ cb.tx.inputs = [⟨thinAir, .coinbase b.height d⟩]) ∧
    -- the evidence equals the evidence recomputed from summary, sampled ancestors and transactions
    constructEvidence C P cs b.header.summary b.height b.txs = .ok b.header.evidence := by
  obtain ⟨⟨hpow, hfut, ⟨cb, rest, htx, ⟨d, hcb, _⟩, _⟩, _, _⟩, S, _⟩ := addBlock_accepted h
  obtain ⟨⟨pb, hpb, hts, hh, htg⟩, hev, _⟩ := S hz
  refine ⟨hpow, hfut, ⟨pb, hpb, hh, hts, ?_⟩, ⟨cb, rest, d, htx, hcb⟩, hev⟩
  rw [hh]; exact htg

/-- for a block obtained from bytes, whose id is the hash of its header (C07), and 32-byte hash
output: the id is numerically below the target -/
theorem id_numerically_below_target (cs cs' : CoinState) (b : Block) (now : Int)
    (h : addBlock C P cs b now = .ok cs') (hz : P.maxKnownHeight < b.height)
    (hid : b.id C = C.sha256d (encHeader b.header)) (hl : (b.id C).length = b.target.length) :
    bytesToNat (b.id C) < bytesToNat b.target := by
  have := (accept_header_rules C P cs cs' b now h hz).1
  rw [← hid] at this
  exact (bytesLt_iff_lt _ _ hl).mp this

/-- the retargeting rule: unchanged inside a period; at a boundary computed from the timestamp
of the ancestor one period below -/
theorem calcTarget_spec (cs : CoinState) (height ts : Nat) (pb : Block) (t : Bytes)
    (h : calcTarget C P cs height ts pb = .ok t) :
    (height % P.retargetInterval ≠ 0 → t = pb.target) ∧
    (height % P.retargetInterval = 0 →
      ∃ sb, (cs.byHeightAt.get? (pb.id C)).bind (·.get? (height - P.retargetInterval)) = some sb ∧
        P.retargetInterval ≤ height ∧ sb.timestamp ≤ ts ∧
        t = newTarget P pb.target (ts - sb.timestamp)) := by
  revert h
  -- the ends of `calcTarget`: 4 at a boundary, the new target computed from `sb`; 5 inside a period; 1, 2, 3 raise (the block one
  -- period below is missing, the height is less than a period, time ran backwards)
  fun_cases calcTarget C P cs height ts pb with
  | case4 he sb hsb hh hts =>
    rintro ⟨⟩
    exact ⟨absurd he, fun _ => ⟨sb, hsb, by omega, by omega, rfl⟩⟩
  | case5 hne =>
    rintro ⟨⟩
    exact ⟨fun _ => rfl, (absurd · hne)⟩
  | _ => exact nofun

/-- the previous target times elapsed seconds over the period length, integer-exact, capped at
2^256 − 1 -/
theorem newTargetNat_spec (p t : Nat) :
    newTargetNat P p t = min (p * t / P.retargetTimespan) (2 ^ 256 - 1) := by
  fun_cases newTargetNat P p t <;> omega

theorem newTarget_spec (prev : Bytes) (t : Nat) :
    (newTarget P prev t).length = 32 ∧
    bytesToNat (newTarget P prev t) = min (bytesToNat prev * t / P.retargetTimespan) (2 ^ 256 - 1) := by
  unfold newTarget
  refine ⟨Codec.natToBytes_length _ _, ?_⟩
  rw [newTargetNat_spec]
  apply Codec.bytesToNat_natToBytes_of_lt
  have : (256 : Nat) ^ 32 = 2 ^ 256 := by decide
  omega

/-- with the constants regenerated from /repo: a 10,080-block period of 1,209,600 seconds -/
theorem production_retarget (prev : Bytes) (t : Nat) :
    Gen.params.retargetInterval = 10080 ∧
    bytesToNat (newTarget Gen.params prev t) = min (bytesToNat prev * t / 1209600) (2 ^ 256 - 1) :=
  ⟨by decide, (newTarget_spec Gen.params prev t).2⟩

/-- the ancestors sampled for the evidence are below the block (so the evidence is always
recomputable on a stored parent) -/
theorem sampled_height_in_range (hash : Bytes) (height : Nat) (hpos : 0 < height) :
    selectBlockHeight hash height < height :=
  Nat.mod_lt _ hpos

/-! ## each rule broken alone is rejected (contrapositives) -/

theorem stale_or_wrong_target_rejected (cs : CoinState) (b : Block) (now : Int) (pb : Block)
    (hz : P.maxKnownHeight < b.height) (hpb : cs.blocks.get? b.prev = some pb)
    (hne : calcTarget C P cs (pb.height + 1) b.timestamp pb ≠ .ok b.target) :
    ∀ cs', addBlock C P cs b now ≠ .ok cs' := by
  intro cs' h
  obtain ⟨_, _, ⟨pb', hpb', hh, _, ht⟩, _, _⟩ := accept_header_rules C P cs cs' b now h hz
  rw [hpb] at hpb'
  cases hpb'
  rw [hh] at ht
  exact hne ht

theorem timestamp_not_after_parent_rejected (cs : CoinState) (b : Block) (now : Int) (pb : Block)
    (hz : P.maxKnownHeight < b.height) (hpb : cs.blocks.get? b.prev = some pb)
    (hts : b.timestamp ≤ pb.timestamp) : ∀ cs', addBlock C P cs b now ≠ .ok cs' := by
  intro cs' h
  obtain ⟨_, _, ⟨pb', hpb', _, hlt, _⟩, _, _⟩ := accept_header_rules C P cs cs' b now h hz
  rw [hpb] at hpb'
  cases hpb'
  omega

theorem future_timestamp_rejected (cs : CoinState) (b : Block) (now : Int)
    (hts : (b.timestamp : Int) > now + P.maxFutureBlockTime) :
    ∀ cs', addBlock C P cs b now ≠ .ok cs' :=
  addBlock_future_rejected hts cs

/-! ## non-vacuity -/

example : newTargetNat Gen.params (2 ^ 248) 1209600 = 2 ^ 248 := by decide
example : newTargetNat Gen.params (2 ^ 255) (4 * 1209600) = 2 ^ 256 - 1 := by decide
example : bytesLt [0, 5] [0, 6] = true ∧ bytesLt [1, 0] [0, 255] = false := by decide

end C05
end Model
