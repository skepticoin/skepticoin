import Proofs.Built

/-!
# C03 — the ledger state at a block is a function of that block's chain alone

What a built state holds is a field of `Hist` (`Proofs/Built.lean`, by the induction `hist` over `WFArrivals`): `utxo_is_replay`
is `Hist.utxo`, and `balances_are_replay` adds that `chainAtHash` walks `chainOf` (`chainAtHash_blocks`). `chainOf_perm` is
`chainOf_same_len`: `chainOf` looks each parent up by id, so histories with the same blocks give the same chain.
`earlier_entries_unchanged` is about one `addBlockNoValidation` step (`add_ok_iff`).
-/

namespace Model
namespace C03

variable (C : Crypto)

/-- for every stored block the unspent-output set the node holds equals the one obtained by
replaying the block's chain from genesis — whatever else is stored, whatever the arrival order -/
theorem utxo_is_replay (bs : List Block) (s : CoinState) (hwf : WFArrivals C bs)
    (hf : foldBlocks C .empty bs = .ok s) (b : Block) (hb : b ∈ bs) :
    ∃ u, s.utxoAt.get? (b.id C) = some u ∧ replayUtxo C (chainOf C bs bs.length b) [] = .ok u :=
  (hist C hwf hf).utxo b hb

/-- `chainOf` does not depend on the order of the history, only on its set of blocks -/
theorem chainOf_perm (bs bs' : List Block) (hwf : WFArrivals C bs) (hwf' : WFArrivals C bs')
    (hp : ∀ x, x ∈ bs ↔ x ∈ bs') (hl : bs.length = bs'.length) (b : Block) (hb : b ∈ bs) :
    chainOf C bs bs.length b = chainOf C bs' bs'.length b := by
  have _ := hl -- not needed: each history is longer than `b` is high (`HistFacts.ht`), so either length is fuel enough
  exact chainOf_same_len C (hwf.facts C) (hwf'.facts C)
    (fun a ha b' hb' e => (hwf.facts C).inj a ha b' ((hp b').2 hb') e) hb ((hp b).1 hb)

/-- two arrival orders of the same block set give the same unspent set and the same by-height
index at every block -/
theorem arrival_order_irrelevant (bs bs' : List Block) (s s' : CoinState)
    (hwf : WFArrivals C bs) (hwf' : WFArrivals C bs') (hp : ∀ x, x ∈ bs ↔ x ∈ bs')
    (hl : bs.length = bs'.length)
    (hf : foldBlocks C .empty bs = .ok s) (hf' : foldBlocks C .empty bs' = .ok s')
    (b : Block) (hb : b ∈ bs) :
    s.utxoAt.get? (b.id C) = s'.utxoAt.get? (b.id C) := by
  obtain ⟨u, hu, hr⟩ := utxo_is_replay C bs s hwf hf b hb
  obtain ⟨u', hu', hr'⟩ := utxo_is_replay C bs' s' hwf' hf' b ((hp b).1 hb)
  rw [chainOf_perm C bs bs' hwf hwf' hp hl b hb, hr'] at hr
  cases hr
  rw [hu, hu']

/-- the per-key balances the node reports at a block are computed by replaying that block's
chain (`PublicKeyBalances` walks `previous_block_hash` links; the cache is memoisation) -/
theorem balances_are_replay (bs : List Block) (s : CoinState) (hwf : WFArrivals C bs)
    (hf : foldBlocks C .empty bs = .ok s) (b : Block) (hb : b ∈ bs) :
    balancesAt C s (b.id C) =
      (replay C (chainOf C bs bs.length b) [] []).map (·.2) := by
  unfold balancesAt
  rw [chainAtHash_blocks C bs s hwf hf hb]
  simp only [bind, Except.bind]
  cases replay C (chainOf C bs bs.length b) [] [] with
  | error e => rfl
  | ok r => rfl

/-- adding a block never changes what an earlier snapshot holds for the blocks it knew:
the new state agrees with the old one on every previously stored id -/
theorem earlier_entries_unchanged (cs cs' : CoinState) (b : Block)
    (ha : addBlockNoValidation C cs b = .ok cs') (id : Bytes) (hid : id ≠ b.id C) :
    cs'.utxoAt.get? id = cs.utxoAt.get? id ∧ cs'.blocks.get? id = cs.blocks.get? id ∧
    (b.prev ≠ zeros 32 → cs'.byHeightAt.get? id = cs.byHeightAt.get? id) := by
  obtain ⟨_, _, _, _, -, -, hidx, -, rfl⟩ := (add_ok_iff C).1 ha
  refine ⟨Map.get?_set_other _ _ _ _ hid.symm, Map.get?_set_other _ _ _ _ hid.symm, fun hz => ?_⟩
  -- for a block whose parent reference is all zeros `indexWith` starts the by-height map afresh, hence the guard `hz`
  obtain ⟨bh, -, rfl⟩ := (indexWith_ok C hz).1 hidx
  exact Map.get?_set_other _ _ _ _ hid.symm

/-! ## non-vacuity -/

/-- the hypotheses of `utxo_is_replay` / `balances_are_replay` are satisfiable for every `Crypto`:
a genesis block and a child (both with cached hashes, as blocks read from the wire or the block
store carry) arrive successfully, and the child is a block of that history -/
example : ∃ (bs : List Block) (s : CoinState) (b : Block),
    WFArrivals C bs ∧ foldBlocks C .empty bs = .ok s ∧ b ∈ bs ∧ bs.length = 2 ∧
    b.prev ≠ zeros 32 := by
  let cb : CTx := ⟨⟨[], [⟨10, [5]⟩]⟩, some [7]⟩
  let g : Block := ⟨⟨⟨0, zeros 32, [], 0, [], 0⟩, ⟨[], [], []⟩⟩, [cb], some [1]⟩
  let b₁ : Block := ⟨⟨⟨1, [1], [], 0, [], 0⟩, ⟨[], [], []⟩⟩, [cb], some [2]⟩
  exact ⟨[g, b₁], _, b₁, .of_decide C rfl, rfl, by simp, rfl, by decide⟩

/-- the hypotheses of `arrival_order_irrelevant` / `chainOf_perm` are satisfiable with two
genuinely different arrival orders: a genesis block and two children of it, arriving in either
order -/
example : ∃ (bs bs' : List Block) (s s' : CoinState),
    WFArrivals C bs ∧ WFArrivals C bs' ∧ (∀ x, x ∈ bs ↔ x ∈ bs') ∧ bs.length = bs'.length ∧
    foldBlocks C .empty bs = .ok s ∧ foldBlocks C .empty bs' = .ok s' ∧ bs ≠ bs' := by
  let cb : CTx := ⟨⟨[], [⟨10, [5]⟩]⟩, some [7]⟩
  let g : Block := ⟨⟨⟨0, zeros 32, [], 0, [], 0⟩, ⟨[], [], []⟩⟩, [cb], some [1]⟩
  let b₁ : Block := ⟨⟨⟨1, [1], [], 0, [], 0⟩, ⟨[], [], []⟩⟩, [cb], some [2]⟩
  let b₂ : Block := ⟨⟨⟨1, [1], [], 0, [], 1⟩, ⟨[], [], []⟩⟩, [cb], some [3]⟩
  refine ⟨[g, b₁, b₂], [g, b₂, b₁], _, _, .of_decide C rfl, .of_decide C rfl, ?_, rfl, rfl, rfl, by decide⟩
  intro x
  simp only [List.mem_cons, List.not_mem_nil, or_false]
  constructor <;> rintro (h | h | h) <;> simp [h]

end C03
end Model
