import Props.C19

/-!
# C19GiveUp — an address that never greets is given up

C19 (clause "… and is no longer retried beyond the configured number of such failures"), stated over the *history* instead of
the node's own counter: as long as no greeting arrives on connections to an address, the node dials that address at most
`maxConnectionAttempts + 1` times, whatever else happens (other peers, announcements, incoming connections, closes, any clock).

`C19.backoff` already says that every logged attempt was made with a failure counter ≤ the limit; this theorem ties the counter
to what actually happened.
-/

namespace Model
namespace C19

variable (P : Params)

/-- number of logged attempts to `k` -/
def attemptsTo (b : Book) (k : PeerKey) : Nat := (b.attempts.filter (fun e => decide (e.1 = k))).length

/-- the invariant for the fixed key `k`: the number of logged attempts is tied to the failure counter -/
structure GInv (k : PeerKey) (b : Book) : Prop where
  disj : Book.Disj b
  conn : ∀ p, b.connected.get? k = some p →
    p.helloReceived = false ∧ attemptsTo b k ≤ p.banScore + 1 ∧ p.banScore ≤ P.maxConnectionAttempts
  disc : ∀ d, b.disconnected.get? k = some d →
    attemptsTo b k ≤ d.banScore ∧ attemptsTo b k ≤ P.maxConnectionAttempts + 1
  unknown : b.connected.get? k = none → b.disconnected.get? k = none → attemptsTo b k = 0
  inc : k.outgoing = false → attemptsTo b k = 0

variable {P}

theorem attemptsTo_cons (b : Book) (k k' : PeerKey) (t : Int) (ban : Nat) :
    attemptsTo { b with attempts := (k', t, ban) :: b.attempts } k = attemptsTo b k + if k' = k then 1 else 0 := by
  unfold attemptsTo
  by_cases e : k' = k <;> simp [e]

theorem GInv.frame {k : PeerKey} {b b' : Book} (h : GInv P k b) (hdisj : Book.Disj b')
    (hc : b'.connected.get? k = b.connected.get? k) (hd : b'.disconnected.get? k = b.disconnected.get? k)
    (ha : attemptsTo b' k = attemptsTo b k) : GInv P k b' :=
  ⟨hdisj, by rw [ha, hc]; exact h.conn, by rw [ha, hd]; exact h.disc, by rw [ha, hc, hd]; exact h.unknown,
    by rw [ha]; exact h.inc⟩

theorem GInv.bound {k : PeerKey} {b : Book} (h : GInv P k b) : attemptsTo b k ≤ P.maxConnectionAttempts + 1 := by
  cases hc : b.connected.get? k with
  | some p => have := h.conn p hc; omega
  | none =>
    cases hd : b.disconnected.get? k with
    | some d => exact (h.disc d hd).2
    | none => have := h.unknown hc hd; omega

/-- the entries of one key `k'` change: nothing is to be shown unless `k'` is `k` -/
theorem GInv.update {k k' : PeerKey} {b b' : Book} (h : GInv P k b) (hdisj : Book.Disj b') {c : Option ConnPeer}
    {d : Option DiscPeer} (hc : Map.Upd k' c b.connected b'.connected)
    (hd : Map.Upd k' d b.disconnected b'.disconnected) (ha : k' ≠ k → attemptsTo b' k = attemptsTo b k)
    (hck : k' = k → ∀ p, c = some p →
      p.helloReceived = false ∧ attemptsTo b' k ≤ p.banScore + 1 ∧ p.banScore ≤ P.maxConnectionAttempts)
    (hdk : k' = k → ∀ q, d = some q → attemptsTo b' k ≤ q.banScore ∧ attemptsTo b' k ≤ P.maxConnectionAttempts + 1)
    (hnk : k' = k → c = none → d = none → attemptsTo b' k = 0)
    (hik : k' = k → k.outgoing = false → attemptsTo b' k = 0) : GInv P k b' := by
  by_cases e : k' = k
  · subst e
    exact ⟨hdisj, fun p hp => hck rfl p (hc.self.symm.trans hp), fun q hq => hdk rfl q (hd.self.symm.trans hq),
      fun hc' hd' => hnk rfl (hc.self.symm.trans hc') (hd.self.symm.trans hd'), hik rfl⟩
  · exact h.frame hdisj (hc.other k (Ne.symm e)) (hd.other k (Ne.symm e)) (ha e)

/-- one connection attempt of `NetworkManager.step` -/
theorem GInv.attempt {k : PeerKey} {b : Book} (h : GInv P k b) (k' : PeerKey) (d : DiscPeer) (now : Int)
    (hd : b.disconnected.get? k' = some d) (hout : k'.outgoing = true)
    (htime : isTimeToConnect P d.banScore d.lastAttempt now = true) :
    GInv P k (Book.startOutgoing
      { b with disconnected := b.disconnected.set k' { d with lastAttempt := some now },
               attempts := (k', now, d.banScore) :: b.attempts } k' { d with lastAttempt := some now }) := by
  have hdisj := h.disj.attempt k' d now hd
  rw [Book.dial_eq d now (h.disj.not_connected hd)] at hdisj ⊢
  -- `k'` is connected with the failure count it waited with, and the log has one more attempt to it
  have hA := attemptsTo_cons b k k' now d.banScore
  refine h.update hdisj (hc := .set ..) (hd := .erase ..) (ha := fun e => hA.trans (by rw [if_neg e]; rfl))
    (hck := fun e _ hp => ?_) (hdk := fun _ => nofun) (hnk := fun _ => nofun) (hik := fun e ho => ?_)
  · subst e
    cases hp
    rw [if_pos rfl] at hA
    exact ⟨rfl, Nat.le_trans (Nat.le_of_eq hA) (Nat.succ_le_succ (h.disc d hd).1), (Book.isTimeToConnect_true htime).1⟩
  · rw [e, ho] at hout
    cases hout

theorem GInv.stable (P : Params) (k : PeerKey) : Book.Stable P (· ≠ k) (GInv P k) := by
  intro b b' hm h
  have hdisj := Book.Disj.stable P _ _ _ hm h.disj
  cases hm with
  | @drop k' p hg =>
    -- if outgoing it waits with one failure more, as it never greeted
    refine h.update hdisj (hc := .erase ..) (hd := .ite (.set ..) (.refl ..)) (ha := fun _ => rfl) (hck := fun _ => nofun)
      (hdk := fun e q hq => ?_) (hnk := fun e _ hq => ?_) (hik := fun _ => h.inc)
    · subst e
      split at hq
      · cases hq
        obtain ⟨hh, hle, hmax⟩ := h.conn p hg
        simp only [hh, Bool.false_eq_true, ↓reduceIte]
        exact ⟨hle, Nat.le_trans hle (Nat.succ_le_succ hmax)⟩
      · exact h.disc q hq
    · subst e
      split at hq
      · cases hq
      · next ho => exact h.inc (by simpa using ho)
  | accept host port s =>
    -- an incoming connection: its key was never dialled (`h.inc`)
    refine h.update hdisj (hc := .set ..) (hd := .erase ..) (ha := fun _ => rfl) (hck := fun e _ hp => ?_)
      (hdk := fun _ => nofun) (hnk := fun _ => nofun) (hik := fun _ => h.inc)
    subst e
    cases hp
    exact ⟨rfl, Nat.le_trans (Nat.le_of_eq (h.inc rfl)) (Nat.zero_le _), Nat.zero_le _⟩
  | tick _ | mine _ _ => exact h.frame hdisj rfl rfl rfl
  | greet hp hG => exact h.frame hdisj (Map.get?_set_other _ _ _ _ hG) rfl rfl
  | @learn host port hd hc =>
    -- an announced address that was in neither map: no attempt to it is logged yet (`h.unknown`)
    refine h.update hdisj (hc := .refl ..) (hd := .set ..) (ha := fun _ => rfl) (hck := fun e => e ▸ h.conn)
      (hdk := fun e _ _ => ?_) (hnk := fun _ _ => nofun) (hik := fun _ => h.inc)
    subst e
    have h0 : attemptsTo b _ = 0 :=
      h.unknown ((Map.contains_eq_false_iff _ _).1 hc) ((Map.contains_eq_false_iff _ _).1 hd)
    exact ⟨Nat.le_trans (Nat.le_of_eq h0) (Nat.zero_le _), Nat.le_trans (Nat.le_of_eq h0) (Nat.zero_le _)⟩
  | dial hd hout _ htime => exact h.attempt _ _ _ hd hout htime

theorem GInv.disconnect {k : PeerKey} {b : Book} (h : GInv P k b) (k' : PeerKey) (s : Nat) :
    GInv P k (b.disconnect k' s) :=
  (GInv.stable P k).disconnect h k' s

theorem GInv.of_fresh {k : PeerKey} {b : Book} (h₀ : Fresh b) : GInv P k b := by
  have hA : attemptsTo b k = 0 := by unfold attemptsTo; rw [h₀.2.1]; rfl
  refine ⟨Book.Disj.of_connected_nil h₀.1, ?_, ?_, ?_, ?_⟩
  · intro p hp; rw [h₀.1] at hp; cases hp
  · intro d _; rw [hA]; exact ⟨Nat.zero_le _, Nat.zero_le _⟩
  · intro _ _; exact hA
  · intro _; exact hA

variable (P)

theorem gives_up_without_greeting (b₀ : Book) (h₀ : Fresh b₀)
    (evs : List BookEvent) (k : PeerKey)
    (hno : ∀ ev ∈ evs, ∀ mine port, ev ≠ BookEvent.hello k mine port) :
    attemptsTo (Book.run P b₀ evs) k ≤ P.maxConnectionAttempts + 1 :=
  ((GInv.stable P k).run (GInv.of_fresh h₀) evs fun ev hev _ mine port e hk =>
    hno ev hev mine port (hk ▸ e)).bound

/-- the bound is attained: with a limit of 1 failure the address is dialled twice (counter 0, then 1), and never again once the
second connection has closed without a greeting (counter 2 > 1), however late the clock -/
example : attemptsTo (Book.run { exParams with maxConnectionAttempts := 1 } exBook
      [.step 100, .close exKey, .step 5000, .close exKey, .step 100000, .step 100000000]) exKey
    = ({ exParams with maxConnectionAttempts := 1 } : Params).maxConnectionAttempts + 1 := by decide

end C19
end Model
