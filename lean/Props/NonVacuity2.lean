import Props.C01
import Props.C02
import Props.C03
import Props.C03Balance
import Props.C04
import Props.C05
import Props.C08
import Props.C10
import Props.C10Follow
import Props.C10Fetch
import Props.C14
import Props.C15
import Props.C18
import Props.C20
import Props.Toy

/-!
# NonVacuity2 — the hypotheses of the property theorems can be met by concrete, non-degenerate instances

Every `example` / `nonvacuous_*` theorem below *applies* the theorem to concrete values, so all its hypotheses
hold together for that instance. The instances are built on the toy primitives of `Props/Toy.lean` (`exC`: every hash is
`[]`, every signature verifies; `exP`: no checkpoint horizon, subsidy 10, 8 samples of 4 bytes).

The chain used throughout: a genesis block `G` (reward 10 to key `[5]`, transaction id `[7]`, block id `[1]`) and a
block `B1` on it (id `[2]`) that holds a reward of 14 = subsidy 10 + fee 4 and one spend of `([7], 0)` paying 6 to key `[8]`.
`B1` passes **full** validation (`addBlock`) on the state after `G`.

One hypothesis is satisfiable by degenerate states only — `C02.ValidChain` under a positive checkpoint horizon, by a lone
genesis block: end of the C02 section (`validChain_only_genesis_of_positive_horizon`,
`production_validChain_only_genesis`).
-/

namespace NonVacuity2
open Model C10Converge
open NonVacuity1 (ne_ok_of_not_isOk)

deriving instance DecidableEq for CoinState

-- `NonVacuity1.getOk · .empty` of Props/Toy.lean, at `CoinState`
def okOr (x : Except Err CoinState) : CoinState :=
  match x with
  | .ok s => s
  | .error _ => .empty

theorem eq_ok_okOr {x : Except Err CoinState} (h : NonVacuity1.isOk x = true) : x = .ok (okOr x) := by
  cases x with
  | ok s => rfl
  | error e => cases h

def cbG : CTx := ⟨⟨[⟨thinAir, .coinbase 0 []⟩], [⟨10, [5]⟩]⟩, some [7]⟩
def G : Block := ⟨⟨⟨0, zeros 32, [7], 0, [1], 0⟩, ⟨[], [], []⟩⟩, [cbG], some [1]⟩

/-- the state after the genesis block -/
def sG : CoinState := okOr (addBlockNoValidation exC .empty G)
theorem hG : addBlockNoValidation exC .empty G = .ok sG := eq_ok_okOr (by decide +kernel)
theorem sG_block : sG.blocks.get? [1] = some G := by decide +kernel
/-- what is unspent after `G` (id `[1]`): its reward -/
theorem sG_utxoAt : sG.utxoAt.get? [1] = some [(⟨[7], 0⟩, ⟨10, [5]⟩)] := by decide +kernel

/-- spends the genesis reward `([7], 0)` (10 to key `[5]`): 6 to key `[8]`, fee 4 -/
def spend : CTx := ⟨⟨[⟨⟨[7], 0⟩, .secp [9]⟩], [⟨6, [8]⟩]⟩, some [11]⟩
theorem fee_spend : blockFees [(⟨[7], 0⟩, ⟨10, [5]⟩)] [spend] = .ok 4 := by decide +kernel
/-- the reward of height 1: subsidy 10 + fee 4 -/
def cb1 : CTx := ⟨⟨[⟨thinAir, .coinbase 1 []⟩], [⟨14, [5]⟩]⟩, some [12]⟩
/-- timestamp 5 > 0, target `[1]` = the parent's, Merkle root of two ids = `sha256d … = []`, evidence as recomputed -/
def B1 : Block := ⟨⟨⟨1, [1], [], 5, [1], 0⟩, ⟨[], zeros 32, []⟩⟩, [cb1, spend], some [2]⟩

/-- the state after `B1` was accepted by full validation -/
def s1 : CoinState := okOr (addBlock exC exP sG B1 5)
/-- what is unspent after `B1` -/
def u1 : Utxo := [(⟨[11], 0⟩, ⟨6, [8]⟩), (⟨[12], 0⟩, ⟨14, [5]⟩)]
/-- `s1` written out: `addBlock` is evaluated once, here, and every later evaluation on `s1` (or on `sF` below, the same state)
first rewrites to this value -/
def s1v : CoinState :=
  ⟨[([2], B1), ([1], G)], [([2], u1), ([1], [(⟨[7], 0⟩, ⟨10, [5]⟩)])],
    [([2], [(1, B1), (0, G)]), ([1], [(0, G)])], [([2], B1)], some [2]⟩
theorem s1_val : addBlock exC exP sG B1 5 = .ok s1v := by decide +kernel
theorem s1_eq : s1 = s1v := by rw [s1, s1_val]; rfl
theorem B1_accepted : addBlock exC exP sG B1 5 = .ok s1 := s1_eq ▸ s1_val
theorem B1_above_horizon : exP.maxKnownHeight < B1.height := by decide

/-! ## C01 -/

/-- `accepted_spends_exist_and_are_signed`: hypotheses met by `B1` on `sG`; the conclusion is about a real spend -/
theorem nonvacuous_C01_accepted_spends_exist_and_are_signed :
    ∃ u cb rest, sG.utxoAt.get? B1.prev = some u ∧ B1.txs = cb :: rest ∧
      ∀ t ∈ rest, ∀ i ∈ t.tx.inputs, ∃ o s, u.get? i.ref = some o ∧ i.sig = .secp s ∧
        exC.verify o.pk (encTx (signable t.tx)) s = true :=
  C01.accepted_spends_exist_and_are_signed exC exP sG s1 B1 5 B1_accepted B1_above_horizon

/-- … and the instance is not degenerate: the block has a non-reward transaction with an input -/
example : B1.txs.tail = [spend] ∧ spend.tx.inputs ≠ [] ∧
    (sG.utxoAt.get? B1.prev).bind (·.get? ⟨[7], 0⟩) = some ⟨10, [5]⟩ := by decide +kernel

theorem nonvacuous_C01_no_double_spend_in_block :
    ∃ cb rest, B1.txs = cb :: rest ∧ (allRefs rest).Nodup ∧ ∀ t ∈ rest, ∀ i ∈ t.tx.inputs, i.ref ≠ thinAir :=
  C01.no_double_spend_in_block exC exP sG s1 B1 5 B1_accepted

/-- a block like `B1` whose spend names an output `([99], 0)` that the parent's unspent set does not hold -/
def spendMissing : CTx := ⟨⟨[⟨⟨[99], 0⟩, .secp [9]⟩], [⟨6, [8]⟩]⟩, some [13]⟩
def B1missing : Block := ⟨⟨⟨1, [1], [], 5, [1], 0⟩, ⟨[], zeros 32, []⟩⟩, [cb1, spendMissing], some [3]⟩

/-- `created_in_block_not_spendable` / `missing_or_spent_or_other_fork_rejected`: hypotheses met -/
theorem nonvacuous_C01_missing_rejected : ∀ cs', addBlock exC exP sG B1missing 5 ≠ .ok cs' :=
  C01.missing_or_spent_or_other_fork_rejected exC exP sG B1missing 5 _ (by decide) sG_utxoAt
    ⟨spendMissing, by decide, ⟨⟨[99], 0⟩, .secp [9]⟩, by decide, by decide⟩

/-- `placeholder_signature_rejected`: a spend carrying the placeholder object -/
def spendPlaceholder : CTx := ⟨⟨[⟨⟨[7], 0⟩, .signable⟩], [⟨6, [8]⟩]⟩, some [14]⟩
def B1placeholder : Block := ⟨⟨⟨1, [1], [], 5, [1], 0⟩, ⟨[], zeros 32, []⟩⟩, [cb1, spendPlaceholder], some [3]⟩
example : ∀ cs', addBlock exC exP sG B1placeholder 5 ≠ .ok cs' :=
  C01.placeholder_signature_rejected exC exP sG B1placeholder 5
    ⟨spendPlaceholder, by decide, ⟨⟨[7], 0⟩, .signable⟩, by decide, rfl⟩

/-! ## C02 -/

theorem nonvacuous_C02_accept_reward_bound :
    ∃ u cb rest fees, sG.utxoAt.get? B1.prev = some u ∧ B1.txs = cb :: rest ∧
      blockFees u rest = .ok fees ∧
      (outputsValue cb.tx.outputs : Int) ≤ (subsidy exP B1.height : Int) + fees :=
  C02.accept_reward_bound exC exP sG s1 B1 5 B1_accepted B1_above_horizon

/-- the bound is tight here: reward 14 = subsidy 10 + fee 4 (one more unit is rejected, see `B1greedy`) -/
example : (sG.utxoAt.get? B1.prev).map (fun u => blockFees u [spend]) = some (.ok 4) ∧
    outputsValue cb1.tx.outputs = 14 ∧ subsidy exP B1.height = 10 := by decide +kernel

def cb1greedy : CTx := ⟨⟨[⟨thinAir, .coinbase 1 []⟩], [⟨15, [5]⟩]⟩, some [12]⟩
def B1greedy : Block := ⟨⟨⟨1, [1], [], 5, [1], 0⟩, ⟨[], zeros 32, []⟩⟩, [cb1greedy, spend], some [2]⟩
theorem B1greedy_rejected : ∀ cs', addBlock exC exP sG B1greedy 5 ≠ .ok cs' := ne_ok_of_not_isOk (by decide +kernel)
example : ∀ cs', addBlock exC exP sG B1greedy 5 ≠ .ok cs' := B1greedy_rejected

example := C02.accept_transaction_values exC exP sG s1 B1 5 B1_accepted B1_above_horizon

theorem nonvacuous_C02_conservation :
    ∃ u u', sG.utxoAt.get? B1.prev = some u ∧ s1.utxoAt.get? (B1.id exC) = some u' ∧
      totalValue u' ≤ totalValue u + subsidy exP B1.height :=
  C02.conservation exC exP sG s1 B1 5 B1_accepted B1_above_horizon

/-- 10 before, 20 = 14 + 6 after, subsidy 10 -/
example : (sG.utxoAt.get? B1.prev).map totalValue = some 10 ∧
    (s1.utxoAt.get? (B1.id exC)).map totalValue = some 20 := by rw [s1_eq]; decide +kernel

/-- `ValidChain` has a two-block instance when there is no checkpoint horizon (`exP.maxKnownHeight = -1`) -/
theorem nonvacuous_C02_supply_bound :
    ∃ u, s1.utxoAt.get? (B1.id exC) = some u ∧ totalValue u ≤ C02.schedule exP (B1.height + 1) :=
  C02.supply_bound exC exP s1 B1
    (.step sG s1 G B1 5 (.genesis G sG _ hG rfl rfl sG_utxoAt (by decide)) rfl B1_accepted B1_above_horizon (by decide))

example : C02.schedule exP (B1.height + 1) = 20 := by decide

/-- **PROBLEM (degenerate only).** With a checkpoint horizon of 1 or more, `ValidChain` holds of genesis-only chains
and of nothing else: a `step` needs `P.maxKnownHeight < b.height` *and* full validation, full validation forces
`b.height = parent.height + 1`, the chain starts at height 0, so the first step needs `P.maxKnownHeight < 1`. -/
theorem validChain_only_genesis_of_positive_horizon (C : Crypto) (P : Params) (cs : CoinState) (tip : Block)
    (hpos : 1 ≤ P.maxKnownHeight) (hv : C02.ValidChain C P cs tip) :
    tip.height = 0 ∧ tip.prev = zeros 32 ∧ addBlockNoValidation C .empty tip = .ok cs :=
  C02.validChain_only_genesis_of_positive_horizon C P cs tip hpos hv

/-- the production constants have the horizon 163000, so the hypothesis of `C02.supply_bound` with `Gen.params` is met only
by a chain consisting of a genesis block alone: the theorem says nothing about any chain of two or more blocks -/
theorem production_validChain_only_genesis (C : Crypto) (cs : CoinState) (tip : Block)
    (hv : C02.ValidChain C Gen.params cs tip) : tip.height = 0 ∧ tip.prev = zeros 32 :=
  C02.production_validChain_only_genesis C cs tip hv

/-! ## C05 -/

example :=
  C05.accept_header_rules exC exP sG s1 B1 5 B1_accepted B1_above_horizon

/-- for `id_numerically_below_target` the id has to be the header's hash and as long as the target: primitives whose
hash is the one-byte string `[0]`, a block without cached id, target `[1]` -/
def C2 : Crypto := ⟨fun _ => [0], fun _ => [], fun _ _ => [], fun _ _ _ => true⟩
def sG2 : CoinState := okOr (addBlockNoValidation C2 .empty G)
def B1' : Block := ⟨⟨⟨1, [1], [0], 5, [1], 0⟩, ⟨[], zeros 32, []⟩⟩, [cb1, spend], none⟩
def s1' : CoinState := okOr (addBlock C2 exP sG2 B1' 5)
theorem B1'_accepted : addBlock C2 exP sG2 B1' 5 = .ok s1' := eq_ok_okOr (by decide +kernel)

theorem nonvacuous_C05_id_numerically_below_target : bytesToNat (B1'.id C2) < bytesToNat B1'.target :=
  C05.id_numerically_below_target C2 exP sG2 s1' B1' 5 B1'_accepted (by decide) rfl rfl

/-! ## C09 — a node that serves `G`, has the spend pending, one greeted and one not yet greeted peer -/

def peerA : PeerSt := ⟨true, false, true, true, [], false, []⟩
def peerI : PeerSt := ⟨true, false, true, false, [], false, []⟩
def nG : Node := ⟨⟨sG, [spend], some sG⟩, [], [], [peerA, peerI], 0⟩

/-- the invariant with a non-empty chain state and a non-empty pool -/
theorem nG_inv : C09.Inv exC exP nG := ⟨rfl, rfl, by decide +kernel, by decide⟩

theorem nG_lacks_B1 : nG.mgr.coinstate.blocks.contains [2] = false := by decide +kernel

/-- the unsolicited delivery of `B1`, evaluated once: it becomes the head; one message to the greeted peer, none to the other;
the block is in the store; the pending spend left the pool because the block contains it -/
theorem nG_after_B1 : (handleBlockReceived exC exP nG 0 0 B1 5).1.mgr.coinstate.current = some (B1.id exC) ∧
    (handleBlockReceived exC exP nG 0 0 B1 5).1.peers.map (·.outbox.length) = [1, 0] ∧
    (handleBlockReceived exC exP nG 0 0 B1 5).1.disk = [B1] ∧
    (handleBlockReceived exC exP nG 0 0 B1 5).1.mgr.pool = [] := by
  decide +kernel

/-- so the hypothesis "the served state changed" holds: the head was `G` -/
theorem nG_changes : (handleBlockReceived exC exP nG 0 0 B1 5).1.mgr.coinstate ≠ nG.mgr.coinstate :=
  fun h => absurd (h ▸ nG_after_B1.1 : nG.mgr.coinstate.current = some (B1.id exC)) (by decide +kernel)

theorem nonvacuous_C09_enter_only_if_valid :
    addBlock exC exP nG.mgr.coinstate B1 5 = .ok (handleBlockReceived exC exP nG 0 0 B1 5).1.mgr.coinstate :=
  C09.enter_only_if_valid exC exP nG 0 B1 5 nG_inv nG_changes

example :=
  C09.accepted_is_stored exC exP nG 0 B1 5 nG_inv nG_changes

theorem nonvacuous_C09_relayed_once_if_new_head :
    (handleBlockReceived exC exP nG 0 0 B1 5).1.peers.map (·.outbox.length) =
      nG.peers.map (fun p => if p.active then p.outbox.length + 1 else p.outbox.length) :=
  C09.relayed_once_if_new_head exC exP nG 0 B1 5 nG_inv nG_changes nG_after_B1.1

example : (handleBlockReceived exC exP nG 0 0 B1 5).1.peers.map (·.outbox.length) = [1, 0] ∧
    (handleBlockReceived exC exP nG 0 0 B1 5).1.disk = [B1] ∧
    (handleBlockReceived exC exP nG 0 0 B1 5).1.mgr.pool = [] := nG_after_B1.2

theorem nonvacuous_C09_inv_preserved : C09.Inv exC exP (handleBlockReceived exC exP nG 0 0 B1 5).1 :=
  C09.inv_preserved exC exP nG 0 B1 5 nG_inv

/-- `reject_no_trace`: the block that pays itself one unit too much -/
theorem nonvacuous_C09_reject_no_trace : C09.Untouched nG (handleBlockReceived exC exP nG 0 0 B1greedy 5).1 :=
  C09.reject_no_trace exC exP nG 0 B1greedy 5 nG_inv B1greedy_rejected

/-- `redelivery_noop`: `G` again -/
example := C09.redelivery_noop exC exP nG 0 0 G 5 (by decide +kernel)

/-- `later_blocks_stored`: a rejected delivery, then `B1`, then `B1` again -/
theorem nonvacuous_C09_later_blocks_stored :
    ∃ x ∈ (C09.deliverAll exC exP nG [(1, B1greedy, 5), (0, B1, 5), (1, B1, 6)]).disk, x.id exC = [2] :=
  C09.later_blocks_stored exC exP nG [(1, B1greedy, 5), (0, B1, 5), (1, B1, 6)] nG_inv [2]
    (by decide +kernel) nG_lacks_B1

/-! ## C10 -/

/-- `block_relayed_at_most_once`: hypotheses met (the block is unknown, nothing relayed yet), and the bound is reached -/
theorem nonvacuous_C10_block_relayed_at_most_once :
    ∀ p ∈ (C09.deliverAll exC exP nG [(0, B1, 5), (1, B1, 6)]).peers, C10.relayCount exC [2] p.outbox ≤ 1 :=
  C10.block_relayed_at_most_once exC exP nG [(0, B1, 5), (1, B1, 6)] nG_inv [2] nG_lacks_B1 (by decide)

example : (C09.deliverAll exC exP nG [(0, B1, 5), (1, B1, 6)]).peers.map (fun p => C10.relayCount exC [2] p.outbox)
    = [1, 0] := by decide +kernel

theorem inv_s1 : inventoryReply exC exP s1 [[99]] = .ok [[2]] := by rw [s1_eq]; decide +kernel

/-- `unknown_locator_answered_from_genesis` on the two-block state: the reply is the id of `B1` -/
example := C10.unknown_locator_answered_from_genesis exC exP s1 [[99]] [[2]] (by rw [s1_eq]; decide +kernel) inv_s1
example := C10.reply_is_consecutive_active_chain exC exP s1 [[99]] [[2]] inv_s1
example := C10.reply_at_most_one_batch exC exP s1 [[99]] [[2]] inv_s1

/-- `pending_transaction_not_relayed_again`: the spend is pending at `nG` -/
example := C10.pending_transaction_not_relayed_again exC exP nG spend (by decide)

/-- `transaction_relayed_iff_admitted`: a transaction that is not pending; here it conflicts with the pending one and
is not admitted -/
def spendConflict : CTx := ⟨⟨[⟨⟨[7], 0⟩, .secp [9]⟩], [⟨5, [8]⟩]⟩, some [15]⟩
example := C10.transaction_relayed_iff_admitted exC exP nG spendConflict (by decide)

/-! ## C10Follow -/

example :=
  C10Follow.inventory_followup exC exP nG 0 7 0 peerA [[2]] 5 rfl rfl (by decide) (by decide)

example := C10Follow.empty_inventory_no_request exC exP nG 0 7 0 peerA 5 rfl rfl

/-! ## C10Fetch — production scheduler constants, the node `nG` (head `G` with timestamp 0), one stale request -/

def exF : FetchParams := ⟨1, 60, 300, 60⟩
def exFs : FetchSt := ⟨0, fun _ => 0, [(50, 1)]⟩

theorem nG_head : nG.mgr.coinstate.head = some G := by decide +kernel
theorem nG_locator : locator exC nG.mgr.coinstate = .ok [[1]] := by decide +kernel

example :=
  C10Fetch.asks_again_after_timeouts exC exF nG exFs 2000 0 G [[1]] nG_head (by decide) 0 peerA rfl rfl
    (by decide) (by decide) nG_locator

example :=
  C10Fetch.request_shape exC exF nG exFs 2000 0 G [[1]] nG_head (by decide) (by decide) (by decide) nG_locator

/-- `idle_when_not_due`: 61 seconds after the start, head fresh, not a full minute -/
example := C10Fetch.idle_when_not_due exC exF nG exFs 61 0 G nG_head (by decide)

/-- `idle_without_candidates`: the only greeted peer answered with an empty inventory 10 seconds ago -/
example := C10Fetch.idle_without_candidates exC exF nG ⟨0, fun _ => 1990, []⟩ 2000 0 G nG_head (by decide)

/-- `slot_free_when_handled`: the outstanding request went to connection 0, whose batch is complete -/
example := C10Fetch.slot_free_when_handled nG ⟨0, fun _ => 0, [(5000, 0)]⟩ 2000
  (List.forall_mem_singleton.2 fun _ hp => by cases hp; rfl)

/-! ## C14 — the wallet of key `[5]` spends its reward of `B1` at the head of `s1` -/

def w5 : Wallet := ⟨[([5], [50])], [[5]], [], []⟩
def bal5 : PKBalances := [([8], ⟨6, [⟨[11], 0⟩]⟩), ([5], ⟨14, [⟨[12], 0⟩]⟩)]
def t5 : Tx := ⟨[⟨⟨[12], 0⟩, .secp [3]⟩], [⟨9, [8]⟩, ⟨4, [5]⟩]⟩

theorem w5_candidates : w5.candidates bal5 = [⟨[12], 0⟩] := rfl
theorem w5_spend : w5.createSpend u1 bal5 9 1 [8] [5] [[3]] = .ok ({ w5 with spent := [⟨[12], 0⟩] }, t5) := by
  decide +kernel

/-- the balances handed to the wallet are the ones the node reports at the head -/
example : balancesAt exC s1 [2] = .ok bal5 := by rw [s1_eq]; decide +kernel

example := C14.spend_shape w5 _ u1 bal5 9 1 [8] [5] [[3]] t5 w5_spend

/-- all ten hypotheses of `spend_valid_partial` at once -/
theorem nonvacuous_C14_spend_valid_partial :
    validateTxByItself exP (CTx.fresh t5) = .ok () ∧ validateTxAtHead exC s1 (CTx.fresh t5) = .ok () :=
  C14.spend_valid_partial exC exP s1 u1 w5 _ bal5 9 1 [8] [5] [[3]] t5 (by rw [s1_eq]; rfl) w5_spend (by decide)
    (fun _ _ _ _ _ _ => rfl) (by decide)
    (fun l hl => Nat.le_trans (Nat.le_add_left _ _) (Nat.le_trans (N_add_refsValue_le u1 l hl) (by decide)))
    (by decide) (by decide +kernel)

/-- `insufficient_iff`: candidates present in the unspent set, a positive total; both sides are true for 20 + 1 -/
example :=
  C14.insufficient_iff w5 u1 bal5 20 1
    (by rw [w5_candidates, List.forall_mem_singleton]; exact ⟨_, rfl⟩)
    (by decide)

example : takeUntil u1 (20 + 1) (w5.candidates bal5) 0 = .ok none := by decide +kernel
example : takeUntil u1 (9 + 1) (w5.candidates bal5) 0 ≠ .ok none := by decide +kernel

example := C14.failure_is_insufficient_or_error w5 u1 bal5 20 1 [8] [5] [[3]] (.other "Insufficient balance")
  (by decide +kernel)
  (by rw [w5_candidates, List.forall_mem_singleton]; exact ⟨_, rfl, by decide⟩)

/-- `successive_spends_disjoint`: two successful spends in a row from a wallet with two outputs -/
example :=
  let w : Wallet := ⟨[([1], [10])], [[1]], [], []⟩
  let u : Utxo := [(⟨[7], 0⟩, ⟨100, [1]⟩), (⟨[8], 0⟩, ⟨50, [1]⟩)]
  let bal : PKBalances := [([1], ⟨150, [⟨[7], 0⟩, ⟨[8], 0⟩]⟩)]
  C14.successive_spends_disjoint w { w with spent := [⟨[7], 0⟩] } { w with spent := [⟨[7], 0⟩, ⟨[8], 0⟩] }
    u bal 60 5 40 5 [9] [1] [[5]] [[6]]
    ⟨[⟨⟨[7], 0⟩, .secp [5]⟩], [⟨60, [9]⟩, ⟨35, [1]⟩]⟩ ⟨[⟨⟨[8], 0⟩, .secp [6]⟩], [⟨40, [9]⟩, ⟨5, [1]⟩]⟩
    (by decide +kernel) (by decide +kernel)

/-! ## C15 -/

def w2 : Wallet := (Wallet.empty.addKey [1] [10]).addKey [2] [20]
theorem w2_inv : C15.Inv w2 :=
  C15.addKey_inv _ _ _ (C15.addKey_inv _ _ _ C15.empty_inv (by decide)) (by decide)

theorem nonvacuous_C15_handOut_fresh :
    [2] ∉ w2.annotations.map (·.1) ∧ [2] ∈ [(([2] : Bytes), "a")].map (·.1) ∧ [2] ∉ [([1] : Bytes)] ∧
      C15.Inv { w2 with unused := [[1]], annotations := [([2], "a")] } :=
  C15.handOut_fresh w2 { w2 with unused := [[1]], annotations := [([2], "a")] } "a" 0 [2] w2_inv (by decide +kernel)
    (by decide +kernel)

/-- `no_double_handout`: a log with two hand-outs of the same key -/
theorem nonvacuous_C15_no_double_handout : (false, [2]) ∈ [(false, ([2] : Bytes))] :=
  C15.no_double_handout [.handOut "a" 0, .saveLoad, .restore [2], .handOut "b" 0] w2 w2_inv
    [] [(false, [2])] [] [2] (by decide +kernel)

example := C15.restore_inv { w2 with unused := [[1]], annotations := [([2], "a")] } _ [2]
  (nonvacuous_C15_handOut_fresh.2.2.2) (by decide : _ = some w2)

example := C15.balance_spec w2 bal5 w2_inv

/-! ## C18 — a toy table with one checkpoint at height 1 -/

def Pck (h : Bytes) : Params := { exP with maxKnownHeight := 1, knownHashes := [(1, h)] }

/-- `checkpoint_enforced`: `B1` (id `[2]`) where the table says `[9]` -/
theorem nonvacuous_C18_checkpoint_enforced :
    ∃ msg, validateBlockInState exC (Pck [9]) sG B1 = .error (.validation msg) :=
  C18.checkpoint_enforced exC (Pck [9]) sG B1 [9] (by decide) rfl (by decide)

/-- … and the block is indeed acceptable otherwise: with its own id in the table `add_block` accepts it, which is
the hypothesis set of `no_alternative_history` -/
theorem nonvacuous_C18_no_alternative_history : B1.id exC = [2] :=
  C18.no_alternative_history exC (Pck [2]) sG _ B1 5 [2] (eq_ok_okOr (by decide +kernel)) (by decide) rfl

example := C18.checkpoint_accepts_its_id exC (Pck [2]) sG B1 [2] (by decide) rfl rfl

/-! ## C20 -/

theorem nonvacuous_C20_rejected_block_contained :
    C20.Contained nG (handleEvent exC exP nG 0 (.msg 1 0 (.dataBlock B1greedy)) 5) 0 :=
  C20.rejected_block_contained exC exP nG 0 1 B1greedy 5 nG_inv ⟨peerA, rfl, rfl⟩ B1greedy_rejected

theorem not_admitted {x : Except Err (ChainMgr × Bool)}
    (h : (match x with | .ok (_, true) => false | _ => true) = true) : ∀ m', x ≠ .ok (m', true) := by
  intro m' e
  rw [e] at h
  cases h

/-- `rejected_transaction_contained`: a spend of a missing output, and a spend conflicting with the pending one -/
theorem nonvacuous_C20_rejected_transaction_contained :
    C20.Contained nG (handleEvent exC exP nG 0 (.msg 1 0 (.dataTx spendMissing)) 5) 0 ∧
    C20.Contained nG (handleEvent exC exP nG 0 (.msg 1 0 (.dataTx spendConflict)) 5) 0 :=
  ⟨C20.rejected_transaction_contained exC exP nG 0 1 0 spendMissing 5 (not_admitted (by decide +kernel)),
   C20.rejected_transaction_contained exC exP nG 0 1 0 spendConflict 5 (not_admitted (by decide +kernel))⟩

/-- `raising_message_contained` on the non-empty node -/
example := C20.raising_message_contained exC exP nG 0 1 0 .dataHeader 5 (.other "NotImplementedError") nG_inv
  (.inl rfl) rfl

/-! ## C03 / C04 / C03Balance — the arrival history `[G, B1]` (with a spend) and a competing child of `G` -/

theorem wf_G : WFArrivals exC [G] := .of_decide _ (by decide +kernel)
theorem wf_GB1 : WFArrivals exC [G, B1] := .of_decide _ (by decide +kernel)
theorem B1_mem : B1 ∈ [G, B1] := .tail _ (.head _)

def sF : CoinState := okOr (foldBlocks exC .empty [G, B1])
theorem sF_val : foldBlocks exC .empty [G, B1] = .ok s1v := by decide +kernel
theorem sF_eq : sF = s1v := by rw [sF, sF_val]; rfl
theorem fold_GB1 : foldBlocks exC .empty [G, B1] = .ok sF := sF_eq ▸ sF_val

theorem nonvacuous_C03_utxo_is_replay :
    ∃ u, sF.utxoAt.get? (B1.id exC) = some u ∧ replayUtxo exC (chainOf exC [G, B1] [G, B1].length B1) [] = .ok u :=
  C03.utxo_is_replay exC [G, B1] sF wf_GB1 fold_GB1 B1 B1_mem

example : sF.utxoAt.get? (B1.id exC) = some u1 ∧ chainOf exC [G, B1] 2 B1 = [G, B1] := by rw [sF_eq]; decide +kernel

example := C03.balances_are_replay exC [G, B1] sF wf_GB1 fold_GB1 B1 B1_mem
example := C04.blocks_are_history exC [G, B1] sF wf_GB1 fold_GB1 [2] B1
example := C04.head_is_first_max exC [G, B1] sF wf_GB1 fold_GB1
example := C04.heads_are_leaves exC [G, B1] sF wf_GB1 fold_GB1 [2]
example := C04.index_is_ancestors exC [G, B1] sF wf_GB1 fold_GB1 B1 B1_mem 0 G

/-- `head_stable_on_ties`: a second child of `G` arrives at the state whose head is `B1` -/
def B1alt : Block := ⟨⟨⟨1, [1], [12], 6, [1], 1⟩, ⟨[], zeros 32, []⟩⟩, [cb1], some [3]⟩
theorem B1alt_added : addBlockNoValidation exC sF B1alt = .ok (okOr (addBlockNoValidation exC sF B1alt)) :=
  eq_ok_okOr (by decide +kernel)
theorem nonvacuous_C04_head_stable_on_ties :
    (okOr (addBlockNoValidation exC sF B1alt)).current = some [2] :=
  C04.head_stable_on_ties exC sF _ B1alt B1 [2] (by decide +kernel) (by decide +kernel) (by decide) (by decide)
    B1alt_added

example : (okOr (addBlockNoValidation exC sF B1alt)).blocks.length = 3 := by decide +kernel

example := C03.earlier_entries_unchanged exC sF _ B1alt B1alt_added [2] (by decide)

theorem replay_GB1 : replay exC [G, B1] [] [] = .ok (u1, bal5) := by decide +kernel

/-- `balance_is_sum` on the chain with the spend, under the toy primitives of the validation examples -/
example :=
  fun pk => C03.balance_is_sum exC [G, B1] u1 bal5 replay_GB1 (by decide +kernel) (by decide +kernel) pk

example := C03.replay_keys_nodup exC [G, B1] u1 bal5 replay_GB1

/-! ## C08 — a history in which a written block spends an output written before -/
open StoreL.Ex in
def txSp : Tx := ⟨[⟨⟨hA, 0⟩, .signable⟩], [⟨0, [0, 0]⟩]⟩
open StoreL.Ex in
def gS : Block := ⟨hdr 0 (zeros 32), [⟨txA, none⟩], some [1]⟩
open StoreL.Ex in
def cS : Block := ⟨hdr 1 [1], [⟨txB, none⟩, ⟨txSp, none⟩], some [2]⟩

theorem nonvacuous_C08_store_roundtrip_partial :
    ∃ s, Store.writeAll C08.toy Store.empty [[gS], [cS]] = (s, true) ∧ s.txnOpen = false ∧
      (s.read.map (C08.summaryOf C08.toy)).Perm ([[gS], [cS]].flatten.map (C08.summaryOf C08.toy)) ∧
      (s.read.map (·.height)).Pairwise (· ≤ ·) ∧
      (∀ b ∈ s.read, b.cached = some (b.id C08.toy)) ∧
      ∀ b ∈ s.read, ∀ t ∈ b.txs, t.cached = some (C08.toy.sha256d (encTx t.tx)) :=
  C08.store_roundtrip_partial C08.toy [[gS], [cS]] (.of_decide C08.toy (by decide +kernel))

/-- what is read back: both blocks, the child with its reward and the spend -/
example : (Store.writeAll C08.toy Store.empty [[gS], [cS]]).1.read.map (fun b => b.txs.map (·.tx)) =
    [[StoreL.Ex.txA], [StoreL.Ex.txB, txSp]] := by decide +kernel

/-! ## further hypotheses sets of C01 / C05 / C10Fetch -/

/-- `C01.signable_covers`: two well-formed transactions that differ (in their signatures) and have the same signed message -/
def tSigA : Tx := ⟨[⟨⟨zeros 32, 1⟩, .secp (zeros 64)⟩], [⟨3, zeros 64⟩]⟩
def tSigB : Tx := ⟨[⟨⟨zeros 32, 1⟩, .secp (List.replicate 64 1)⟩], [⟨3, zeros 64⟩]⟩
theorem tSig_wf : tSigA.WF ∧ tSigB.WF := by decide +kernel

example : tSigA ≠ tSigB ∧ (tSigA.inputs.map (·.ref) = tSigB.inputs.map (·.ref) ∧ tSigA.outputs = tSigB.outputs) :=
  ⟨by decide, C01.signable_covers tSigA tSigB tSig_wf.1 tSig_wf.2 rfl⟩

/-- `C05.calcTarget_spec`, retargeting branch: interval 2, the block at height 2 on `G ← B1` -/
def P2 : Params := { exP with retargetInterval := 2 }
example : ∃ t, calcTarget exC P2 s1 2 9 B1 = .ok t ∧ 2 % P2.retargetInterval = 0 ∧ t.length = 32 ∧
    ∃ sb, (s1.byHeightAt.get? (B1.id exC)).bind (·.get? (2 - P2.retargetInterval)) = some sb ∧
      P2.retargetInterval ≤ 2 ∧ sb.timestamp ≤ 9 ∧ t = newTarget P2 B1.target (9 - sb.timestamp) := by
  have h : calcTarget exC P2 s1 2 9 B1 = .ok (newTarget P2 B1.target 9) := by rw [s1_eq]; decide +kernel
  exact ⟨_, h, by decide, (C05.newTarget_spec P2 _ _).1, (C05.calcTarget_spec exC P2 s1 2 9 B1 _ h).2 (by decide)⟩

/-- `C05.stale_or_wrong_target_rejected`: `B1` claiming the target `[2]` -/
def B1target : Block := ⟨⟨⟨1, [1], [], 5, [2], 0⟩, ⟨[], zeros 32, []⟩⟩, [cb1, spend], some [2]⟩
example := C05.stale_or_wrong_target_rejected exC exP sG B1target 5 G (by decide) sG_block (by decide +kernel)

/-- `C05.timestamp_not_after_parent_rejected`: `B1` with the parent's timestamp -/
def B1early : Block := ⟨⟨⟨1, [1], [], 0, [1], 0⟩, ⟨[], zeros 32, []⟩⟩, [cb1, spend], some [2]⟩
example := C05.timestamp_not_after_parent_rejected exC exP sG B1early 5 G (by decide) sG_block (by decide)

/-- `C05.future_timestamp_rejected`: `B1` validated at time −100 -/
example := C05.future_timestamp_rejected exC exP sG B1 (-100) (by decide)

example := C18.above_horizon_full_validation exC exP sG B1 B1_above_horizon ((addBlock_ok exC exP sG s1 B1 5).1 B1_accepted).2.1

/-- `C10Fetch.step_is_local` / `fetching_bounded`: a step that returned normally (and did send a request) -/
example : True := by
  obtain ⟨c, n', f', h, _, _, hf⟩ := C10Fetch.asks_again_after_timeouts exC exF nG exFs 2000 0 G [[1]] nG_head
    (by decide) 0 peerA rfl rfl (by decide) (by decide) nG_locator
  have _ := C10Fetch.step_is_local exC exF nG n' exFs f' 2000 0 h
  have _ := C10Fetch.fetching_bounded exC exF nG n' exFs f' 2000 0 (by decide) h
  trivial

/-- `C10Fetch.prune_keeps`: an entry that survives pruning (timeout ahead, batch unfinished) -/
def nWait : Node := { nG with peers := [{ peerA with waitingForInventory := true }, peerI] }
example := C10Fetch.prune_keeps nWait ⟨0, fun _ => 0, [(5000, 0)]⟩ 2000 (5000, 0) (by decide)

/-- `blockFees_nonneg`: the fee 4 of the one spend of `B1` -/
example : (0 : Int) ≤ 4 :=
  blockFees_nonneg [(⟨[7], 0⟩, ⟨10, [5]⟩)] [spend] 4 fee_spend
    (List.forall_mem_singleton.2 ⟨10, by decide +kernel, by decide⟩)

end NonVacuity2
