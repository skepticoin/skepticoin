import Gen.CalculateNewTarget
import Gen.SelectBlockHeight

/-!
GenTie.Target — `consensus.calculate_new_target` (the readjusted target, capped at 2^256 − 1 by a test or by `min`) and
`pow.select_block_height`, translated from the current source, are the model's `newTarget` and `selectBlockHeight` (C05).
-/

namespace GenTie

theorem calculate_new_target_eq (prev : Model.Bytes) (t : Nat) :
    Gen.calculate_new_target prev t = Model.newTarget Gen.params prev t := by
  have hT : Gen.params.retargetTimespan = Gen.DESIRED_TARGET_READJUSTMENT_TIMESPAN := rfl
  simp only [Gen.calculate_new_target, Model.newTarget, Model.newTargetNat, hT]
  congr 1
  -- the same quotient on both sides, capped at 2^256 - 1: whether it is over the cap decides both (a test, or `min`)
  generalize Model.bytesToNat prev * t / Gen.DESIRED_TARGET_READJUSTMENT_TIMESPAN = r
  by_cases h : r > 2 ^ 256 - 1 <;> simp [h] <;> omega

theorem select_block_height_eq (h : Model.Bytes) (n : Nat) :
    Gen.select_block_height h n = Model.selectBlockHeight h n := by
  simp only [Gen.select_block_height, Model.selectBlockHeight]

end GenTie
