import Proofs.Vlq
import Gen.StreamSerializeVlq
import Gen.StreamDeserializeVlq

/-!
GenTie.Vlq — the variable-length integer code of `skepticoin/serialization.py`, as translated from the current source
on this run (`stream_serialize_vlq`: the integers handed to `struct.pack("B", ·)`, in order; `stream_deserialize_vlq`:
structural recursion over the unread bytes), is the model's `encodeVlq` / strict `decodeVlq`.
-/

namespace GenTie
open Model

/-- what the code's read loop makes of the model's loop result -/
def readResult : Option (Nat × Nat × Bytes) → Except String (Nat × Bytes)
  | none => .error "SerializationTruncationError"
  | some (v, n, rest) => if n = vlqLen v then .ok (v, rest) else .error "DeserializationError"

theorem vlq_loop_eq : ∀ (bs : Bytes) (acc n : Nat),
    Gen.stream_deserialize_vlq.loop bs acc n = readResult (decodeVlqAux bs acc n) := by
  intro bs
  induction bs with
  | nil => intro acc n; simp [Gen.stream_deserialize_vlq.loop, decodeVlqAux, readResult]
  | cons b rest ih =>
    intro acc n
    rw [Gen.stream_deserialize_vlq.loop, decodeVlqAux]
    by_cases hb : b.toNat < 128
    · by_cases hn : n + 1 = bitLen (acc + b.toNat % 128) / 7 + 1 <;> simp [hb, readResult, vlqLen, hn]
    · simp [hb, ih]

theorem stream_deserialize_vlq_readResult (bs : Bytes) :
    Gen.stream_deserialize_vlq bs = readResult (decodeVlqAux bs 0 0) := by
  unfold Gen.stream_deserialize_vlq
  simp only [vlq_loop_eq]

/-- the translated reader returns exactly what the model's strict decoder returns (value and unread rest), and fails
exactly when it fails -/
theorem stream_deserialize_vlq_eq (bs : Bytes) :
    (Gen.stream_deserialize_vlq bs).toOption = decodeVlq bs := by
  rw [stream_deserialize_vlq_readResult, decodeVlq]
  rcases decodeVlqAux bs 0 0 with _ | ⟨v, n, rest⟩
  · rfl
  · by_cases hn : n = vlqLen v <;> simp [readResult, hn, Except.toOption]

/-- the two failures are told apart as the code tells them apart: input exhausted vs. non-canonical encoding -/
theorem stream_deserialize_vlq_error (bs : Bytes) (e : String) (h : Gen.stream_deserialize_vlq bs = .error e) :
    (e = "SerializationTruncationError" ∧ decodeVlqAux bs 0 0 = none) ∨
    (e = "DeserializationError" ∧ ∃ v n r, decodeVlqAux bs 0 0 = some (v, n, r) ∧ n ≠ vlqLen v) := by
  rw [stream_deserialize_vlq_readResult] at h
  rcases hd : decodeVlqAux bs 0 0 with _ | ⟨v, n, rest⟩ <;> rw [hd, readResult] at h
  · exact Or.inl ⟨by cases h; rfl, rfl⟩
  · split at h
    · cases h
    · rename_i hn
      exact Or.inr ⟨by cases h; rfl, v, n, rest, rfl, hn⟩

theorem toNat_digit_last (i : Nat) : (UInt8.ofNat (i % 128)).toNat = i % 128 :=
  UInt8.toNat_ofNat_of_lt' (show i % 128 < 256 by omega)

theorem toNat_digit_cont (x : Nat) : (UInt8.ofNat (x % 128 + 128)).toNat = x % 128 + 128 :=
  UInt8.toNat_ofNat_of_lt' (show x % 128 + 128 < 256 by omega)

/-- `for j in reversed(range(k + 1))`: the first pass has `j = k` -/
theorem foldl_reverse_range_succ {σ : Type} (f : σ → Nat → σ) (a : σ) (k : Nat) :
    (List.range (k + 1)).reverse.foldl f a = (List.range k).reverse.foldl f (f a k) := by
  rw [List.range_succ, List.reverse_append, List.reverse_singleton, List.singleton_append, List.foldl_cons]

/-- one iteration of the plain loop: the digit `(i // 128^j) % 128`, the continuation bit on all but the last -/
def wstepB (i : Nat) (out : List Nat) (j : Nat) : List Nat :=
  out ++ [((i / (128 ^ j)) % 128) + (if (decide (j > 0)) then 128 else 0)]

theorem wfoldB_digits (i : Nat) : ∀ (k : Nat) (out : List Nat),
    (List.range k).reverse.foldl (wstepB i) out = out ++ (vlqDigits i k).map UInt8.toNat := by
  intro k
  induction k with
  | zero => intro out; simp [vlqDigits]
  | succ k ih =>
    intro out
    rw [foldl_reverse_range_succ, ih, wstepB, List.append_assoc, List.singleton_append]
    cases k with
    | zero =>
      show out ++ [i / 128 ^ 0 % 128 + 0] = out ++ [(UInt8.ofNat (i % 128)).toNat]
      rw [toNat_digit_last, Nat.pow_zero, Nat.div_one]; rfl
    | succ k' => rw [vlqDigits, List.map_cons, toNat_digit_cont]; rfl

/-- one iteration of the loop that carries `mod`: the state is (integers written so far, `mod`) -/
def wstep (i : Nat) (st : List Nat × Nat) (j : Nat) : List Nat × Nat :=
  (st.1 ++ [((if decide (st.2 ≠ 0) then (i % st.2) else i) / (128 ^ j)) + (if (decide (j > 0)) then 128 else 0)], 128 ^ j)

/-- with the carried `mod` (0 before the first pass, when all of `i` is still below `128^k`, and `128^(j+1)` afterwards)
the digit `(i % mod if mod else i) // 128^j` is the plain `(i // 128^j) % 128` -/
theorem wfold_eq_wfoldB (i : Nat) : ∀ (k : Nat) (out : List Nat) (mod : Nat), mod = 128 ^ k ∨ mod = 0 ∧ i < 128 ^ k →
    ((List.range k).reverse.foldl (wstep i) (out, mod)).1 = (List.range k).reverse.foldl (wstepB i) out
  | 0, _, _, _ => rfl
  | k + 1, out, mod, hm => by
    have hd : (if decide (mod ≠ 0) then i % mod else i) / 128 ^ k = i / 128 ^ k % 128 := by
      rcases hm with rfl | ⟨rfl, hlt⟩
      · rw [if_pos (by simp), Nat.pow_succ, Nat.mod_mul_right_div_self]
      · exact (Nat.mod_eq_of_lt (Nat.div_lt_of_lt_mul hlt)).symm
    rw [foldl_reverse_range_succ, foldl_reverse_range_succ, wstep, hd]
    exact wfold_eq_wfoldB i k _ _ (.inl rfl)

/-- the integers the translated writer hands to `struct.pack("B", ·)` are the model's encoding, byte for byte — in
particular each lies in 0..255, so the packing never raises. Two shapes of the loop are known to the proof: the plain one
(`(i // 128**j) % 128`) and the one with the carried `mod` (`(i % mod if mod else i) // div`). -/
theorem stream_serialize_vlq_eq (i : Nat) :
    Gen.stream_serialize_vlq i = (encodeVlq i).map UInt8.toNat := by
  have hu : Gen.stream_serialize_vlq i = (List.range (vlqLen i)).reverse.foldl (wstepB i) [] := by
    first
    | rfl
    | exact wfold_eq_wfoldB i _ [] 0 (.inr ⟨rfl, lt_pow_vlqLen i⟩)
  rw [hu, wfoldB_digits, encodeVlq, List.nil_append]

theorem map_ofNat_toNat (l : Bytes) : (l.map UInt8.toNat).map UInt8.ofNat = l := by
  simp [Function.comp_def]

theorem stream_serialize_vlq_in_byte_range (i : Nat) : ∀ x ∈ Gen.stream_serialize_vlq i, x < 256 := by
  intro x hx
  rw [stream_serialize_vlq_eq] at hx
  obtain ⟨b, _, rfl⟩ := List.mem_map.mp hx
  exact b.toNat_lt

/-- hence, for the translated code itself: reading back what was written yields the value and leaves the rest; and
any bytes the reader accepts are the bytes the writer writes for the value it returns (single encoding) -/
theorem translated_roundtrip (i : Nat) (r : Bytes) :
    (Gen.stream_deserialize_vlq ((Gen.stream_serialize_vlq i).map UInt8.ofNat ++ r)).toOption = some (i, r) := by
  rw [stream_deserialize_vlq_eq, stream_serialize_vlq_eq, map_ofNat_toNat]
  exact decodeVlq_encodeVlq i r

theorem translated_canonical (bs : Bytes) (v : Nat) (r : Bytes)
    (h : (Gen.stream_deserialize_vlq bs).toOption = some (v, r)) :
    bs = (Gen.stream_serialize_vlq v).map UInt8.ofNat ++ r := by
  rw [stream_deserialize_vlq_eq] at h
  rw [stream_serialize_vlq_eq, map_ofNat_toNat]
  exact encodeVlq_of_decodeVlq h

end GenTie
