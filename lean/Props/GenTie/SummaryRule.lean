import Proofs.Validation
import Gen.SummaryInStateOk

/-!
GenTie.SummaryRule — the decision of `validate_block_summary_in_coinstate`, translated from the current source over declared
atoms, is the model's: parent known, timestamp strictly later than the parent's, target equal to the target computed **for
height parent + 1** at the block's own timestamp.
-/

namespace GenTie
open Model

theorem summary_in_state_ok_eq (unk : Bool) (ts pts ph : Nat) (target : Bytes) (targetAt : Nat → Bytes) :
    Gen.summary_in_state_ok unk ts pts ph target targetAt =
      (!unk && decide (pts < ts) && decide (target = targetAt (ph + 1))) := by
  fun_cases Gen.summary_in_state_ok unk ts pts ph target targetAt <;> simp_all +zetaDelta <;> omega

/-- `validateSummaryInState` succeeds exactly when the translated decision says so, the target atom being the model's
`calcTarget` for the height the translated code asks for -/
theorem model_summary_in_state_as_translated (C : Crypto) (cs : CoinState) (s : Summary) (pb : Block)
    (hpb : cs.blocks.get? s.prev = some pb) (t : Bytes)
    (ht : calcTarget C Gen.params cs (pb.height + 1) s.timestamp pb = .ok t) :
    validateSummaryInState C Gen.params cs s = .ok () ↔
      Gen.summary_in_state_ok false s.timestamp pb.timestamp pb.height s.target
        (fun h => if h = pb.height + 1 then t else []) = true := by
  rw [summary_in_state_ok_eq, eq_ok_iff_isOk, validateSummaryInState]
  simp only [hpb, ht, ok_bind, isOk_bind_unit, isOk_require, Bool.not_false, Bool.true_and, if_true]

/-- an unknown parent is refused by both -/
theorem model_summary_unknown_parent (C : Crypto) (cs : CoinState) (s : Summary) (h : cs.blocks.get? s.prev = none)
    (ts pts ph : Nat) (tg : Bytes) (f : Nat → Bytes) :
    validateSummaryInState C Gen.params cs s ≠ .ok () ∧ Gen.summary_in_state_ok true ts pts ph tg f = false := by
  constructor
  · unfold validateSummaryInState; rw [h]; simp [verr]
  · rw [summary_in_state_ok_eq]; simp

end GenTie
