import Proofs.Chain
import Gen.HeadSwitches

/-!
GenTie.Head — the statement of `CoinState.add_block_no_validation` that decides the new head, and `Block.get_total_work`,
as translated from the current source on this run, are the model's head choice: the added block becomes the head exactly
when there was no head, or it extends the head, or it is strictly higher than the head (ties keep the first-seen).
-/

namespace GenTie
open Model

/-- "work" is the height (the code's placeholder) -/
theorem get_total_work_eq (h : Nat) (t : Bytes) : Gen.get_total_work h t = h := by
  first
  | rfl
  | (simp [Gen.get_total_work]; done)

theorem head_switches_eq (cn cp : Bool) (nh : Nat) (nt : Bytes) (hh : Nat) (ht : Bytes) :
    Gen.head_switches cn cp nh nt hh ht = (cn || cp || decide (nh > hh)) := by
  fun_cases Gen.head_switches cn cp nh nt hh ht <;> simp_all +zetaDelta [get_total_work_eq] <;> omega

/-- the model's `addBlockNoValidation` chooses the head as the translated statement does, in each of the three
situations the code distinguishes (no head yet / the block extends the head / a fork) -/
theorem model_head_is_translated_choice (C : Crypto) (cs cs' : CoinState) (b : Block)
    (h : addBlockNoValidation C cs b = .ok cs') :
    (cs.current = none →
      cs'.current = some (if Gen.head_switches true false b.height b.target 0 [] then b.id C else b.id C)
      ∧ ∀ cp nh nt hh ht, Gen.head_switches true cp nh nt hh ht = true) ∧
    (∀ c, cs.current = some c → c = b.prev →
      cs'.current = some (b.id C) ∧ ∀ nh nt hh ht, Gen.head_switches false true nh nt hh ht = true) ∧
    (∀ c, cs.current = some c → c ≠ b.prev → ∃ cb, cs.blocks.get? c = some cb ∧
      cs'.current = some (if Gen.head_switches false false b.height b.target cb.height cb.target
                          then b.id C else c)) := by
  obtain ⟨_, _, _, cur, -, -, -, hcur, rfl⟩ := (add_ok_iff C).1 h
  refine ⟨?_, ?_, ?_⟩
  · intro hn
    rw [headWith_none C hn] at hcur
    cases hcur
    refine ⟨by simp, ?_⟩
    intro cp nh nt hh ht; simp [head_switches_eq]
  · intro c hc hp
    rw [headWith_parent C (hp ▸ hc)] at hcur
    cases hcur
    refine ⟨rfl, ?_⟩
    intro nh nt hh ht; simp [head_switches_eq]
  · intro c hc hp
    obtain ⟨cb, hcb, rfl⟩ := (headWith_other C hc hp).1 hcur
    refine ⟨cb, hcb, ?_⟩
    rw [head_switches_eq]
    simp

end GenTie
