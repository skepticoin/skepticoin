import Model.Consensus
import Gen.Assembly
import Props.GenTie.Subsidy

/-!
GenTie.AssemblyRule — the assembly of the miner's candidate (`construct_reference_to_thin_air`, `construct_coinbase_transaction`,
`construct_minable_summary` for a state with a head, `construct_block_pow_evidence_input`), regenerated as functions that build
the model's records.

* the reward transaction has one input (the reference to thin air, carrying the height and the given data) and one output, of
  `get_block_subsidy(height) + fees` to the miner's key;
* the summary has height `head height + 1`, the head as its parent, the commitment to *the list that starts with that reward
  transaction and continues with the other transactions*, the given time, the target for that height and time, the nonce;
* the model's `constructCoinbase` / `constructEvidenceInput` (on which C12's theorems rest) are these functions with the
  model's fees, commitment and target plugged in.
-/

namespace GenTie.Assembly
open Model Gen

theorem thin_air_eq : construct_reference_to_thin_air = thinAir := rfl

/-- C12: the reward pays exactly subsidy(height) + fees, in one output, to the miner's key -/
theorem coinbase_closed_form (height : Nat) (fees : Int) (data pk : Bytes) :
    construct_coinbase_transaction height fees data pk =
      ⟨[⟨thinAir, .coinbase height data⟩], [⟨((get_block_subsidy height : Int) + fees).toNat, pk⟩]⟩ := by
  first
  | rfl
  | (simp [construct_coinbase_transaction, construct_reference_to_thin_air, thinAir, Int.add_comm]; done)

theorem summary_closed_form {α : Type} (merkle : List α → Bytes) (ct : Nat → Nat → Bytes) (hh : Nat) (cur : Bytes)
    (txs : List α) (ts nonce : Nat) :
    construct_minable_summary merkle ct hh cur txs ts nonce = ⟨hh + 1, cur, merkle txs, ts, ct (hh + 1) ts, nonce⟩ := by
  first
  | rfl
  | (simp [construct_minable_summary, Nat.add_comm]; done)

theorem evidence_input_closed_form {α : Type} (fresh : Tx → α) (merkle : List α → Bytes) (ct : Nat → Nat → Bytes) (fees : Int)
    (hh : Nat) (cur : Bytes) (others : List α) (pk : Bytes) (ts : Nat) (data : Bytes) (nonce : Nat) :
    construct_block_pow_evidence_input fresh merkle ct fees hh cur others pk ts data nonce =
      (⟨hh + 1, cur, merkle (fresh (construct_coinbase_transaction (hh + 1) fees data pk) :: others), ts, ct (hh + 1) ts, nonce⟩,
       hh + 1, fresh (construct_coinbase_transaction (hh + 1) fees data pk) :: others) := by
  first
  | rfl
  | (simp [construct_block_pow_evidence_input, summary_closed_form, Nat.add_comm]; done)

/-- the model's reward transaction is the translated one on the model's fees -/
theorem model_coinbase_as_translated (height : Nat) (others : List CTx) (u : Utxo) (data pk : Bytes) :
    constructCoinbase Gen.params height others u data pk =
      (blockFees u others).map fun fees => CTx.fresh (construct_coinbase_transaction height fees data pk) := by
  unfold constructCoinbase
  cases blockFees u others with
  | error e => rfl
  | ok fees =>
    simp only [Except.map, coinbase_closed_form, GenTie.get_block_subsidy_eq]
    rfl

/-- the model's candidate is the translated one, with the model's fees, commitment and target plugged in -/
theorem model_evidence_input_as_translated (C : Crypto) (cs : CoinState) (pool : List CTx) (pk : Bytes) (ts : Nat)
    (data : Bytes) (nonce : Nat) (hd : Block) (cur : Bytes) (u : Utxo) (fees : Int) (root target : Bytes)
    (hhead : cs.head = some hd) (hcur : cs.current = some cur) (hu : cs.utxoAt.get? cur = some u)
    (hfees : blockFees u pool = .ok fees)
    (hroot : calcMerkleRoot C (CTx.fresh (construct_coinbase_transaction (hd.height + 1) fees data pk) :: pool) = some root)
    (htarget : calcTarget C Gen.params cs (hd.height + 1) ts hd = .ok target) :
    constructEvidenceInput C Gen.params cs pool pk ts data nonce =
      .ok (construct_block_pow_evidence_input CTx.fresh (fun _ => root) (fun _ _ => target) fees hd.height cur pool pk ts data nonce) := by
  unfold constructEvidenceInput
  simp only [hhead, hcur, hu, model_coinbase_as_translated, hfees, Except.map, bind, Except.bind, hroot, htarget, pure, Except.pure,
    evidence_input_closed_form]

end GenTie.Assembly
