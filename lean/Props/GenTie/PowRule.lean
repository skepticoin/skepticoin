import Model.Consensus
import Proofs.Codec
import Proofs.Scan
import Gen.PowSampler
import Props.GenTie.Target

/-!
GenTie.PowRule — the chain sampler of pow.py (`select_block_slice`, `select_slice_from_chain`,
`select_n_k_length_slices_from_chain`), regenerated: the `while` loop that collects `length` bytes of a serialised block starting
at the position the hash selects and wrapping round to the start; the look-up of the block at the height the hash selects; and
the loop that appends one slice per round and re-hashes (hash ++ slice) after every round but the last.

The model's `selectBlockSlice` / `selectSlices` / `chainSample` (inside the evidence that C05's rule compares) are these
functions with the model's block look-up, block encoder and sha256d plugged in.
-/

namespace GenTie.Pow
open Model Gen

theorem loop_eq_sliceLoop (h ser : Bytes) (len base : Nat) :
    ∀ (fuel : Nat) (result : Bytes) (start : Nat),
      Gen.select_block_slice.loop h ser len base fuel result start =
        result ++ Model.sliceLoop ser fuel start (len - result.length)
  | 0, result, start => (List.append_nil _).symm
  | fuel + 1, result, start => by
    rw [Gen.select_block_slice.loop, Model.sliceLoop]
    by_cases hlt : result.length < len
    · -- `ser[start : start + len - len(result)]` is the next `len - len(result)` bytes from `start` on
      rw [if_pos (decide_eq_true hlt), if_neg (Nat.sub_ne_zero_of_lt hlt), loop_eq_sliceLoop h ser len base fuel,
        List.append_assoc, List.drop_take, Nat.add_sub_assoc (Nat.le_of_lt hlt), Nat.add_sub_cancel_left,
        List.length_append, Nat.sub_add_eq]
    · rw [if_neg (by simpa using hlt), if_pos (Nat.sub_eq_zero_of_le (Nat.le_of_not_lt hlt)), List.append_nil]

theorem sliceLoop_length (ser : Bytes) :
    ∀ (fuel start need : Nat), start < ser.length → need < fuel →
      (Model.sliceLoop ser fuel start need).length = need
  | 0, _, _, _, hf => absurd hf (Nat.not_lt_zero _)
  | fuel + 1, start, need, hs, hf => by
    rw [Model.sliceLoop]
    split
    · simp [*]
    · -- the piece taken is not empty, so less is needed from the next pass, which starts at 0
      rw [List.length_append, List.length_take, List.length_drop,
        sliceLoop_length ser fuel 0 _ (Nat.zero_lt_of_lt hs) (by omega)]
      exact Nat.add_sub_cancel' (Nat.min_le_left ..)

/-- the collecting loop: `length` bytes starting at `start`, wrapping round (for a non-empty block) -/
theorem select_block_slice_eq (h ser : Bytes) (len : Nat) (hne : ser ≠ []) :
    Gen.select_block_slice h ser len = Model.selectBlockSlice h ser len := by
  -- not used: the two loops agree on an empty block as well (only `select_block_slice_length` needs a non-empty one)
  have _ := hne
  unfold Gen.select_block_slice Model.selectBlockSlice
  -- `hash[8:12]` is written `(hash.take 12).drop 8` by one and `(hash.drop 8).take 4` by the other: `List.drop_take`
  simp only [loop_eq_sliceLoop, List.drop_take, List.nil_append, List.length_nil, Nat.sub_zero]

/-- the slice has exactly the requested length (for a non-empty block) -/
theorem select_block_slice_length (h ser : Bytes) (len : Nat) (hne : ser ≠ []) :
    (Gen.select_block_slice h ser len).length = len := by
  rw [select_block_slice_eq h ser len hne]
  unfold Model.selectBlockSlice
  have hpos : 0 < ser.length := List.length_pos_iff.mpr hne
  exact sliceLoop_length ser _ _ _ (Nat.mod_lt _ hpos) (Nat.lt_succ_self _)

/-- one slice: the block at the height the hash selects, then the collecting loop on its encoding -/
theorem select_slice_from_chain_eq (getBlock : Nat → Option Block) (hash : Bytes) (height k : Nat)
    (hne : ∀ n b, getBlock n = some b → encBlock b ≠ []) :
    Gen.select_slice_from_chain (fun n => (getBlock n).map encBlock) hash height k =
      (getBlock (selectBlockHeight hash height)).map fun blk => selectBlockSlice hash (encBlock blk) k := by
  unfold Gen.select_slice_from_chain
  rw [GenTie.select_block_height_eq]
  show Option.map (fun ser => select_block_slice hash ser k)
      (Option.map encBlock (getBlock (selectBlockHeight hash height))) = _
  cases hb : getBlock (selectBlockHeight hash height) with
  | none => rfl
  | some b =>
    simp only [Option.map_some]
    rw [select_block_slice_eq _ _ _ (hne _ _ hb)]

variable (C : Crypto)

/-- the round of the translated sampler, with the index of the last round as a parameter -/
def sliceStep (sha256d : Bytes → Bytes) (get_block : Nat → Option Bytes) (height k last : Nat)
    (st : Option (List Bytes × Bytes)) (i : Nat) : Option (List Bytes × Bytes) :=
  match st with
  | none => none
  | some (result, current_hash) =>
    match Gen.select_slice_from_chain get_block current_hash height k with
    | none => none
    | some b => some (result ++ [b], if (decide (i ≠ last)) then (sha256d (current_hash ++ b)) else current_hash)

theorem foldl_sliceStep_eq (getBlock : Nat → Option Block) (height k : Nat)
    (hne : ∀ m b, getBlock m = some b → encBlock b ≠ []) :
    ∀ (m a last : Nat) (res : List Bytes) (h : Bytes), (m ≠ 0 → last + 1 = a + m) →
      (match ((List.range' a m).foldl
          (sliceStep C.sha256d (fun m => (getBlock m).map encBlock) height k last) (some (res, h))).map
            fun st => st.1.flatten with
        | some bs => .ok bs
        | none => .error (.key "sampled block")) =
        (selectSlices C getBlock height k m h).map fun bs => res.flatten ++ bs := by
  intro m
  induction m with
  | zero => intro a last res h _; exact congrArg Except.ok (List.append_nil _).symm
  | succ m ih =>
    intro a last res h hl
    obtain rfl : last = a + m := by have := hl (by omega); omega
    rw [List.range'_succ, List.foldl_cons, selectSlices, sliceStep, select_slice_from_chain_eq getBlock h height k hne]
    cases getBlock (selectBlockHeight h height) with
    | none => rw [Option.map_none, foldl_none fun _ => rfl]; rfl
    | some blk =>
      simp only [Option.map_some]
      cases m with
      | zero => simp [selectSlices, Except.map]
      | succ m =>
        rw [if_pos (decide_eq_true (by omega)), ih (a + 1) _ _ _ (by omega)]
        cases selectSlices C getBlock height k (m + 1) (C.sha256d (h ++ selectBlockSlice h (encBlock blk) k)) with
        | error e => rfl
        | ok rest => simp [Except.map]

/-- the model's sampler is the translated loop (a failed look-up is the model's key error) -/
theorem select_slices_eq (getBlock : Nat → Option Block) (height k n : Nat) (h : Bytes)
    (hne : ∀ m b, getBlock m = some b → encBlock b ≠ []) :
    selectSlices C getBlock height k n h =
      match Gen.select_n_k_length_slices_from_chain C.sha256d (fun m => (getBlock m).map encBlock) h height n k with
      | some bs => .ok bs
      | none => .error (.key "sampled block") := by
  have hfold := foldl_sliceStep_eq C getBlock height k hne n 0 (n - 1) [] h (by omega)
  rw [← List.range_eq_range'] at hfold
  -- the translated function is this fold: its round is `sliceStep` with `last = n - 1`
  refine .trans ?_ hfold.symm
  cases selectSlices C getBlock height k n h <;> rfl

/-- every block's encoding is non-empty (it starts with the header's version byte) -/
theorem encBlock_ne_nil (b : Block) : encBlock b ≠ [] := by
  simp [encBlock, BlockC.codec, Header.codec]

/-- the model's chain sample is zeros at height 0 and otherwise the translated sampler on the chain of the summary's parent -/
theorem model_chain_sample_as_translated (cs : CoinState) (sh : Bytes) (s : Summary) (height : Nat) (hh : height ≠ 0) :
    chainSample C Gen.params cs sh s height =
      match Gen.select_n_k_length_slices_from_chain C.sha256d
          (fun m => ((cs.byHeightAt.get? s.prev).bind (·.get? m)).map encBlock) sh height Gen.CHAIN_SAMPLE_COUNT Gen.CHAIN_SAMPLE_SIZE with
      | some bs => .ok bs
      | none => .error (.key "sampled block") := by
  unfold chainSample
  simp only [hh, if_false]
  exact select_slices_eq C _ height _ _ sh (fun _ b _ => encBlock_ne_nil b)

end GenTie.Pow
