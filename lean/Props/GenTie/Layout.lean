import Model.Types
import Gen.Layouts
import Gen.SigLayouts

/-!
GenTie.Layout — the byte layout of the eight record classes of datatypes.py, regenerated from `stream_deserialize` (as a codec
built from the model's combinators, the nested classes being parameters) and from `stream_serialize` (as an item list):

* the model's codecs **are** the regenerated decoders (up to the record constructors), so every round-trip and canonicity theorem
  of C07 about `OutRef.codec … BlockC.codec` is a theorem about the layouts the code has now;
* every encoder writes, field by field, what its decoder reads (same fields, same order, same kind and width; raw bytes are
  written where a fixed number is read — the width is the decoder's), and every decoder passes the fields to the constructor in
  the order read;
* the cached ids are hashes of the raw bytes of the whole transaction / of the header only.
-/

namespace GenTie
open Model Model.Codec Gen.Layout

/-- a written item matches a read item: same field, same kind and parameter (the writer does not name widths of raw bytes or
the classes of nested values) -/
def itemAgrees (w r : String × String × String) : Bool :=
  (w.2.2 == r.2.2) &&
  (((w.1 == r.1) && ((w.2.1 == r.2.1) || (w.2.1 == ""))) || ((w.1 == "raw") && (r.1 == "fixed")))

def agree (w r : List (String × String × String)) : Bool :=
  (w.length == r.length) && (List.zipWith itemAgrees w r).all id

def fieldsOf (items : List (String × String × String)) : List String :=
  (items.map (·.2.2)).filter (· != "")

theorem encoders_write_what_decoders_read :
    agree OutputReference.writerItems OutputReference.readerItems = true ∧
    agree Input.writerItems Input.readerItems = true ∧
    agree Output.writerItems Output.readerItems = true ∧
    agree Transaction.writerItems Transaction.readerItems = true ∧
    agree PowEvidence.writerItems PowEvidence.readerItems = true ∧
    agree BlockSummary.writerItems BlockSummary.readerItems = true ∧
    agree BlockHeader.writerItems BlockHeader.readerItems = true ∧
    agree Block.writerItems Block.readerItems = true := by decide +kernel

theorem decoders_construct_in_field_order :
    OutputReference.ctor = fieldsOf OutputReference.readerItems ∧
    Input.ctor = fieldsOf Input.readerItems ∧
    Output.ctor = fieldsOf Output.readerItems ∧
    Transaction.ctor = fieldsOf Transaction.readerItems ++ ["cached_hash"] ∧
    PowEvidence.ctor = fieldsOf PowEvidence.readerItems ∧
    BlockSummary.ctor = fieldsOf BlockSummary.readerItems ∧
    BlockHeader.ctor = fieldsOf BlockHeader.readerItems ∧
    Block.ctor = fieldsOf Block.readerItems ++ ["hash"] := by decide +kernel

/-- the cached id of a transaction covers all of its bytes; that of a block the header only -/
theorem hashed_spans :
    Transaction.hashSpan = some (0, Transaction.readerItems.length, "cached_hash") ∧
    Block.hashSpan = some (0, 1, "hash") ∧
    (Block.readerItems.take 1).map (·.1) = ["nested"] ∧
    OutputReference.hashSpan = none ∧ Input.hashSpan = none ∧ Output.hashSpan = none ∧ PowEvidence.hashSpan = none ∧
    BlockSummary.hashSpan = none ∧ BlockHeader.hashSpan = none := by decide +kernel

/-- the model's codecs are the regenerated decoders -/
theorem model_codecs_are_translated :
    OutRef.codec = iso (fun p => ⟨p.1, p.2⟩) (fun r => (r.hash, r.index)) OutputReference.reader ∧
    Model.Input.codec = iso (fun p => ⟨p.1, p.2⟩) (fun i => (i.ref, i.sig)) (Input.reader OutRef.codec Sig.codec) ∧
    Model.Output.codec = iso (fun p => ⟨p.1, p.2⟩) (fun o => (o.value, o.pk)) (Output.reader pkCodec) ∧
    Tx.codec = iso (fun p => ⟨p.2.1, p.2.2⟩) (fun t => ((), t.inputs, t.outputs))
      (Transaction.reader Model.Input.codec Model.Output.codec) ∧
    Evidence.codec = iso (fun p => ⟨p.1, p.2.1, p.2.2⟩) (fun e => (e.summaryHash, e.chainSample, e.blockHash))
      PowEvidence.reader ∧
    Summary.codec = iso (fun p => ⟨p.1, p.2.1, p.2.2.1, p.2.2.2.1, p.2.2.2.2.1, p.2.2.2.2.2⟩)
      (fun s => (s.height, s.prev, s.merkleRoot, s.timestamp, s.target, s.nonce)) BlockSummary.reader ∧
    Header.codec = iso (fun p => ⟨p.2.1, p.2.2⟩) (fun h => ((), h.summary, h.evidence))
      (BlockHeader.reader Summary.codec Evidence.codec) ∧
    BlockC.codec = iso (fun p => ⟨p.1, p.2⟩) (fun b => (b.header, b.txs)) (Block.reader Header.codec Tx.codec) := by
  refine ⟨rfl, rfl, rfl, rfl, rfl, rfl, rfl, rfl⟩

/-! ### signatures and public keys (signing.py): type byte, then the variant -/

open Gen.SigLayout in
/-- the dispatch tables: three kinds of signature field (placeholder 0, reward data 1, SECP256k1 signature 2), one kind of key -/
theorem type_byte_dispatch :
    Signature.dispatch = [(0, "SignableEquivalent"), (1, "CoinbaseData"), (2, "SECP256k1Signature")] ∧
    PublicKey.dispatch = [(2, "SECP256k1PublicKey")] := ⟨rfl, rfl⟩

open Gen.SigLayout in
/-- every variant's encoder writes the type byte its dispatcher tests for, then what the variant's decoder reads -/
theorem variants_write_tag_then_what_is_read :
    SignableEquivalent.writerItems = ("const", "0", "") :: [] ∧ SignableEquivalent.readerItems = [] ∧
    CoinbaseData.writerItems.head? = some ("const", "1", "") ∧
      agree CoinbaseData.writerItems.tail CoinbaseData.readerItems = true ∧
    SECP256k1Signature.writerItems.head? = some ("const", "2", "") ∧
      agree SECP256k1Signature.writerItems.tail SECP256k1Signature.readerItems = true ∧
    SECP256k1PublicKey.writerItems.head? = some ("const", "2", "") ∧
      agree SECP256k1PublicKey.writerItems.tail SECP256k1PublicKey.readerItems = true ∧
    CoinbaseData.ctor = fieldsOf CoinbaseData.readerItems ∧
    SECP256k1Signature.ctor = fieldsOf SECP256k1Signature.readerItems ∧
    SECP256k1PublicKey.ctor = fieldsOf SECP256k1PublicKey.readerItems := by decide +kernel

open Gen.SigLayout in
/-- the model's key codec is the regenerated one behind its type byte -/
theorem pk_codec_is_translated :
    pkCodec = iso (fun p => p.2) (fun k => ((), k)) (seq (const [2]) SECP256k1PublicKey.reader) := rfl

open Gen.SigLayout in
/-- the model's signature-field decoder is the regenerated dispatch over the regenerated variant decoders -/
theorem sig_codec_dec_is_translated (bs : Bytes) :
    Sig.codec.dec bs =
      match bs with
      | [] => none
      | t :: r =>
        if t = 0 then (match SignableEquivalent.reader.dec r with | none => none | some (_, r') => some (.signable, r'))
        else if t = 1 then
          (match CoinbaseData.reader.dec r with | none => none | some ((h, d), r') => some (.coinbase h d, r'))
        else if t = 2 then
          (match SECP256k1Signature.reader.dec r with | none => none | some (x, r') => some (.secp x, r'))
        else none := by
  cases bs with
  | nil => rfl
  | cons t r =>
    -- the same three tests of the type byte on both sides; the placeholder's decoder reads nothing
    refine ite_congr rfl (fun _ => ?_) fun _ => ite_congr rfl (fun _ => rfl) fun _ => ite_congr rfl (fun _ => rfl) fun _ => rfl
    simp [SignableEquivalent.reader, Codec.skip]

open Gen.SigLayout in
theorem sig_codec_enc_is_translated (s : Sig) :
    Sig.codec.enc s =
      match s with
      | .signable => [0] ++ SignableEquivalent.reader.enc ()
      | .coinbase h d => [1] ++ CoinbaseData.reader.enc (h, d)
      | .secp x => [2] ++ SECP256k1Signature.reader.enc x := by
  cases s <;> rfl

end GenTie
