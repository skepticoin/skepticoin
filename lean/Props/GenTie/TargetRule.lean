import Props.C05
import Gen.CalcTargetRule

/-!
GenTie.TargetRule — `calc_target`, translated from the current source over declared atoms (the timestamp of the block the
head-of-parent index holds at a given height, and `calculate_new_target`, itself tied in `GenTie.Target`), gives the target of
the model's `calcTarget` whenever that returns one: only at heights that are multiples of the readjustment interval, from the
block **one interval below**, over the time from **that block's timestamp to the new block's own timestamp**; otherwise the
parent's target.
-/

namespace GenTie
open Model

theorem calc_target_rule_eq (height ts : Nat) (prevTarget : Bytes) (startTsAt : Int → Nat)
    (newTarget : Bytes → Int → Bytes) :
    Gen.calc_target_rule height ts prevTarget startTsAt newTarget =
      if height % Gen.BLOCKS_BETWEEN_TARGET_READJUSTMENT = 0 then
        newTarget prevTarget ((ts : Int) - (startTsAt ((height : Int) - (Gen.BLOCKS_BETWEEN_TARGET_READJUSTMENT : Int)) : Int))
      else prevTarget := by
  have hm : Int.fmod (height : Int) (Gen.BLOCKS_BETWEEN_TARGET_READJUSTMENT : Int)
      = ((height % Gen.BLOCKS_BETWEEN_TARGET_READJUSTMENT : Nat) : Int) := by
    rw [Int.fmod_eq_emod_of_nonneg _ (by decide)]; omega
  fun_cases Gen.calc_target_rule height ts prevTarget startTsAt newTarget <;> simp_all +zetaDelta <;> omega

/-- whenever the model's `calcTarget` yields a target, it is the translated rule's, with the atoms read off the model: the
start block's timestamp from the parent's by-height index, and `newTarget` on the (non-negative) elapsed time -/
theorem model_calc_target_as_translated (C : Crypto) (cs : CoinState) (height ts : Nat) (pb : Block) (t : Bytes)
    (h : calcTarget C Gen.params cs height ts pb = .ok t) :
    t = Gen.calc_target_rule height ts pb.target
      (fun hh => match (cs.byHeightAt.get? (pb.id C)).bind (·.get? hh.toNat) with | some sb => sb.timestamp | none => 0)
      (fun tg dt => newTarget Gen.params tg dt.toNat) := by
  have hI : Gen.params.retargetInterval = Gen.BLOCKS_BETWEEN_TARGET_READJUSTMENT := rfl
  obtain ⟨hkeep, hadjust⟩ := C05.calcTarget_spec C Gen.params cs height ts pb t h
  rw [hI] at hkeep hadjust
  rw [calc_target_rule_eq]
  split
  · next hm =>
    obtain ⟨sb, hsb, hge, hts, rfl⟩ := hadjust hm
    have hsub : ((height : Int) - (Gen.BLOCKS_BETWEEN_TARGET_READJUSTMENT : Int)).toNat
        = height - Gen.BLOCKS_BETWEEN_TARGET_READJUSTMENT := by omega
    have hdt : ((ts : Int) - (sb.timestamp : Int)).toNat = ts - sb.timestamp := by omega
    simp only [hsub, hsb, hdt]
  · next hm => exact hkeep hm

end GenTie
