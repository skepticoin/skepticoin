import Model.Wallet
import Gen.CreateSpend
import Proofs.Spend

/-!
GenTie.SpendPlanRule — `wallet.create_spend_transaction`, translated from the current source (`Gen.create_spend`: the scan over
the wallet's keys and, per key, over the references listed for it, with the running total, the chosen inputs, the outputs built
when the total suffices and the references newly recorded as used), is the model's `Wallet.planSpend` / `Wallet.createSpend`.

1. `create_spend_closed_form`: the translated function, in closed form. Let `flat keys` be the references of all keys that have
   a balance entry, in order, that are not already used. The result is `none` exactly when no non-empty prefix of `flat keys`
   has a total reaching `value + fee`; otherwise it is `spendOf value fee pre` for the SHORTEST non-empty prefix `pre` of
   `flat keys` whose total reaches `value + fee`: the inputs are the ids of `pre`, the outputs are `value` and, when the total
   differs from `value + fee`, the change `total pre - (value + fee)`, and the references newly recorded as used are the inputs.
2. `model_plan_is_translated`: on the atoms read off a wallet, the balances and the unspent set (under ANY encoding of
   references as numbers), the model's `Wallet.planSpend` decides and builds what the translated function does.
3. `model_createSpend_is_translated`: the wallet's record of used outputs after a successful `Wallet.createSpend` is the old
   record plus exactly the references whose encodings are the third component of the translated result.
-/

namespace GenTie
open Model

namespace SpendPlan

/-- what the translated function is given per reference: (already used, value, id) -/
abbrev Atom := Bool × Nat × Nat

/-- the references of all keys that have a balance entry, in order, that are not already used -/
def flat (keys : List (Option (List Atom))) : List Atom :=
  (keys.filterMap id).flatten.filter (fun r => !r.1)

/-- the total value of a list of references -/
def total (l : List Atom) : Nat := (l.map (·.2.1)).sum

/-- the translated scans are `Model.reach val`, whose lemmas speak of `(l.map val).sum` -/
abbrev val : Atom → Nat := fun a => a.2.1

theorem sum_val (l : List Atom) : (l.map val).sum = total l := rfl

/-- the ids of a list of references -/
def ids (l : List Atom) : List Nat := l.map (·.2.2)

/-- the output values: the amount and, unless the collected value is exact, the change -/
def outputsFor (value fee collected : Nat) : List Nat :=
  [value] ++ (if collected ≠ value + fee then [collected - (value + fee)] else [])

/-- the result for the chosen references: (inputs, output values, references newly recorded as used) -/
def spendOf (value fee : Nat) (pre : List Atom) : List Nat × List Nat × List Nat :=
  (ids pre, outputsFor value fee (total pre), ids pre)

/-- `pre` is the shortest non-empty prefix of `l` whose total reaches `target` -/
structure IsShortestReaching (target : Nat) (l pre : List Atom) : Prop where
  nonempty : pre ≠ []
  isPrefix : pre <+: l
  reaches : target ≤ total pre
  shortest : ∀ pre' : List Atom, pre' ≠ [] → pre' <+: l → target ≤ total pre' → pre.length ≤ pre'.length

@[simp] theorem total_nil : total [] = 0 := rfl
@[simp] theorem total_cons (a : Atom) (l : List Atom) : total (a :: l) = a.2.1 + total l := by
  simp [total]
@[simp] theorem total_append (l1 l2 : List Atom) : total (l1 ++ l2) = total l1 + total l2 := by
  simp [total]
@[simp] theorem ids_nil : ids [] = [] := rfl
@[simp] theorem ids_cons (a : Atom) (l : List Atom) : ids (a :: l) = a.2.2 :: ids l := rfl
@[simp] theorem ids_append (l1 l2 : List Atom) : ids (l1 ++ l2) = ids l1 ++ ids l2 := by
  simp [ids]

/-- there is at most one shortest reaching prefix -/
theorem IsShortestReaching.unique {target : Nat} {l p q : List Atom}
    (hp : IsShortestReaching target l p) (hq : IsShortestReaching target l q) : p = q := by
  have h1 := hp.shortest q hq.nonempty hq.isPrefix hq.reaches
  have h2 := hq.shortest p hp.nonempty hp.isPrefix hp.reaches
  have hpq : p <+: q := List.prefix_of_prefix_length_le hp.isPrefix hq.isPrefix h1
  exact hpq.eq_of_length (by omega)

theorem reach_eq_some_iff (target : Nat) (l pre : List Atom) :
    reach val target l 0 = some pre ↔ IsShortestReaching target l pre := by
  have key : ∀ q, reach val target l 0 = some q → IsShortestReaching target l q := fun q h =>
    let ⟨h1, h2, h3, h4⟩ := reach_some h
    ⟨h1, h2, by simpa [sum_val] using h3, fun pre' a b c => h4 pre' a b (by simpa [sum_val] using c)⟩
  refine ⟨key pre, fun hp => ?_⟩
  cases hr : reach val target l 0 with
  | none =>
    have : 0 + total pre < target := reach_none val target l 0 hr pre hp.nonempty hp.isPrefix
    have := hp.reaches
    omega
  | some q => rw [(key q hr).unique hp]

theorem reach_eq_none_iff (target : Nat) (l : List Atom) :
    reach val target l 0 = none ↔ ∀ pre : List Atom, pre ≠ [] → pre <+: l → total pre < target := by
  refine ⟨fun h pre hne hpre => by simpa [sum_val] using reach_none val target l 0 h pre hne hpre, fun h => ?_⟩
  cases hr : reach val target l 0 with
  | none => rfl
  | some q =>
    have hq := (reach_eq_some_iff target l q).1 hr
    exact absurd hq.reaches (Nat.not_le.2 (h q hq.nonempty hq.isPrefix))

/-- the second alternative: with a target of 0 the first unused reference is taken, whatever its value -/
theorem IsShortestReaching.dropLast_lt {target : Nat} {l pre : List Atom}
    (hp : IsShortestReaching target l pre) : total pre.dropLast < target ∨ pre.length = 1 := by
  have hpos := List.length_pos_iff.2 hp.nonempty
  by_cases hlen : pre.length = 1
  · exact .inr hlen
  · refine .inl (Nat.lt_of_not_le fun hreach => ?_)
    have := hp.shortest pre.dropLast (List.ne_nil_of_length_pos (by rw [List.length_dropLast]; omega))
      ((List.dropLast_prefix pre).trans hp.isPrefix) hreach
    rw [List.length_dropLast] at this
    omega

theorem flat_nil : flat [] = [] := rfl

theorem flat_none (keys : List (Option (List Atom))) : flat (none :: keys) = flat keys := by
  simp [flat]

theorem flat_some (refs : List Atom) (keys : List (Option (List Atom))) :
    flat (some refs :: keys) = refs.filter (fun r => !r.1) ++ flat keys := by
  simp [flat]

theorem inner_eq (value fee : Nat) : ∀ (refs : List Atom) (acc : Nat) (ins : List Nat),
    Gen.create_spend.inner value fee refs acc ins =
      match reach val (value + fee) (refs.filter (fun r => !r.1)) acc with
      | some pre => Sum.inr (ins ++ ids pre, outputsFor value fee (acc + total pre), ins ++ ids pre)
      | none => Sum.inl (acc + total (refs.filter (fun r => !r.1)), ins ++ ids (refs.filter (fun r => !r.1))) := by
  intro refs
  induction refs with
  | nil => intro acc ins; simp [Gen.create_spend.inner, Model.reach]
  | cons a rest ih =>
    intro acc ins
    obtain ⟨used, v, id⟩ := a
    rw [Gen.create_spend.inner]
    cases used with
    | true => simp [ih]
    | false =>
      simp only [Bool.false_eq_true, ↓reduceIte, Bool.not_false, List.filter_cons_of_pos, Model.reach]
      by_cases hge : acc + v ≥ value + fee
      · have hsub : ((((acc + v : Nat) : Int) - (((value : Nat) : Int) + ((fee : Nat) : Int)))).toNat
            = acc + v - (value + fee) := by omega
        simp only [hge, decide_true, ↓reduceIte, hsub]
        by_cases hne : acc + v = value + fee <;> simp [outputsFor, hne]
      · simp only [hge, decide_false, Bool.false_eq_true, ↓reduceIte]
        rw [ih]
        cases reach val (value + fee) (rest.filter (fun r => !r.1)) (acc + v) <;> simp [Nat.add_assoc]

theorem outer_eq (value fee : Nat) : ∀ (keys : List (Option (List Atom))) (acc : Nat) (ins : List Nat),
    Gen.create_spend.outer value fee keys acc ins =
      (reach val (value + fee) (flat keys) acc).map fun pre =>
        (ins ++ ids pre, outputsFor value fee (acc + total pre), ins ++ ids pre) := by
  intro keys
  induction keys with
  | nil => intro acc ins; simp [Gen.create_spend.outer, flat_nil, Model.reach]
  | cons k rest ih =>
    intro acc ins
    cases k with
    | none => rw [Gen.create_spend.outer, ih, flat_none]
    | some refs =>
      rw [Gen.create_spend.outer, inner_eq, flat_some, reach_append, sum_val]
      cases reach val (value + fee) (refs.filter (fun r => !r.1)) acc with
      | some p => simp
      | none =>
        simp only [ih]
        cases reach val (value + fee) (flat rest) (acc + total (refs.filter (fun r => !r.1))) <;>
          simp [Nat.add_assoc]

theorem create_spend_eq_reach (value fee : Nat) (keys : List (Option (List Atom))) :
    Gen.create_spend value fee keys = (reach val (value + fee) (flat keys) 0).map (spendOf value fee) := by
  unfold Gen.create_spend
  rw [outer_eq]
  cases reach val (value + fee) (flat keys) 0 <;> simp [spendOf]

end SpendPlan

open SpendPlan

/-- `Gen.create_spend value fee keys` is `none` exactly when no non-empty prefix of the unused references (in key order) has a
total reaching `value + fee` — in particular when there is no unused reference at all, even for `value + fee = 0` —, and
otherwise it is `spendOf value fee pre` for the shortest such prefix `pre`: inputs `ids pre`, outputs `value` and (when
`total pre ≠ value + fee`) the change `total pre - (value + fee)`, references newly recorded as used `ids pre`. -/
theorem create_spend_closed_form (value fee : Nat) (keys : List (Option (List Atom))) :
    (Gen.create_spend value fee keys = none ↔
      ∀ pre : List Atom, pre ≠ [] → pre <+: flat keys → total pre < value + fee) ∧
    (∀ res, Gen.create_spend value fee keys = some res ↔
      ∃ pre, IsShortestReaching (value + fee) (flat keys) pre ∧ res = spendOf value fee pre) := by
  rw [create_spend_eq_reach]
  constructor
  · rw [Option.map_eq_none_iff, reach_eq_none_iff]
  · intro res
    rw [Option.map_eq_some_iff]
    exact exists_congr fun pre => and_congr (reach_eq_some_iff _ _ _) eq_comm

/-- what a returned transaction looks like, spelled out: the chosen references are a non-empty prefix of the unused ones, they
cover `value + fee`, without the last one they do not (unless a single reference was chosen), the outputs are the amount and
the change, and the references newly recorded as used are exactly the inputs -/
theorem create_spend_some (value fee : Nat) (keys : List (Option (List Atom)))
    (inputs outputs newlyUsed : List Nat)
    (h : Gen.create_spend value fee keys = some (inputs, outputs, newlyUsed)) :
    ∃ pre : List Atom, pre ≠ [] ∧ pre <+: flat keys ∧ inputs = ids pre ∧ newlyUsed = inputs ∧
      value + fee ≤ total pre ∧ (total pre.dropLast < value + fee ∨ pre.length = 1) ∧
      outputs = [value] ++ (if total pre ≠ value + fee then [total pre - (value + fee)] else []) ∧
      outputs.sum + fee = total pre := by
  obtain ⟨pre, hp, hres⟩ := ((create_spend_closed_form value fee keys).2 _).1 h
  simp only [spendOf, Prod.mk.injEq] at hres
  obtain ⟨h1, h2, h3⟩ := hres
  refine ⟨pre, hp.nonempty, hp.isPrefix, h1, by rw [h3, h1], hp.reaches, hp.dropLast_lt, h2, ?_⟩
  have := hp.reaches
  rw [h2, outputsFor]
  by_cases hne : total pre = value + fee
  · simp [hne]
  · simp [hne]; omega

/-- with no unused reference the result is `none` whatever the amount (the loop body never runs) -/
theorem create_spend_no_refs (value fee : Nat) (keys : List (Option (List Atom))) (h : flat keys = []) :
    Gen.create_spend value fee keys = none := by
  rw [create_spend_eq_reach, h]
  rfl

/-- the result is `none` when the unused references do not add up to `value + fee` -/
theorem create_spend_insufficient (value fee : Nat) (keys : List (Option (List Atom)))
    (h : total (flat keys) < value + fee) : Gen.create_spend value fee keys = none := by
  rw [create_spend_eq_reach, (reach_eq_none_iff_lt val _ _ 0 (by omega)).2 (by rwa [Nat.zero_add, sum_val])]
  rfl

/-- and a transaction is returned when there is an unused reference and they add up to `value + fee` -/
theorem create_spend_sufficient (value fee : Nat) (keys : List (Option (List Atom)))
    (hne : flat keys ≠ []) (h : value + fee ≤ total (flat keys)) :
    (Gen.create_spend value fee keys).isSome = true := by
  cases hc : Gen.create_spend value fee keys with
  | some r => rfl
  | none =>
    have := (create_spend_closed_form value fee keys).1.1 hc (flat keys) hne (List.prefix_refl _)
    omega

/-- the atoms of one reference: used already by this wallet; its value in the unspent set; its encoding -/
def refAtom (w : Wallet) (u : Utxo) (enc : OutRef → Nat) (r : OutRef) : Atom :=
  (w.spent.any (· = r), (match u.get? r with | some o => o.value | none => 0), enc r)

/-- the atoms the translated function is given: per key (in order), `none` when the key has no balance entry, else the atoms of
the references listed for it -/
def keyAtoms (w : Wallet) (u : Utxo) (bal : PKBalances) (enc : OutRef → Nat) : List (Option (List Atom)) :=
  w.keys.map fun pk => (bal.get? pk).map fun e => e.refs.map (refAtom w u enc)

theorem flat_keyAtoms (w : Wallet) (u : Utxo) (bal : PKBalances) (enc : OutRef → Nat) :
    flat (keyAtoms w u bal enc) = (w.candidates bal).map (refAtom w u enc) := by
  unfold keyAtoms Wallet.candidates
  generalize w.keys = ks
  induction ks with
  | nil => simp [flat_nil]
  | cons pk rest ih =>
    simp only [List.map_cons, List.flatMap_cons, List.map_append]
    cases bal.get? pk with
    | none => simp only [Option.map_none, flat_none, ih, List.map_nil, List.nil_append]
    | some e =>
      simp only [Option.map_some, flat_some, ih, List.filter_map]
      congr 1

theorem refAtom_val (w : Wallet) (u : Utxo) (enc : OutRef → Nat) (r : OutRef) : val (refAtom w u enc r) = uval u r := by
  simp only [val, refAtom, uval]; cases u.get? r <;> rfl

/-- the model's `Wallet.planSpend` is the translated `create_spend_transaction` on the atoms read off the wallet, the balances
and the unspent set, for any encoding `enc` of references as numbers — provided every candidate reference (listed in the
balances for one of the wallet's keys and not yet used by the wallet) is in the unspent set (otherwise the Python raises
`KeyError`, which the translated function's atoms do not express):
"Insufficient balance" is raised exactly when the translated function returns `none`, and a planned transaction has the
translated function's inputs, output values and newly-used references. -/
theorem model_plan_is_translated (w : Wallet) (u : Utxo) (bal : PKBalances) (amount fee : Nat)
    (recipient change : Bytes) (enc : OutRef → Nat)
    (hpresent : ∀ r ∈ w.candidates bal, (u.get? r).isSome) :
    (w.planSpend u bal amount fee recipient change = .error (.other "Insufficient balance") ↔
      Gen.create_spend amount fee (keyAtoms w u bal enc) = none) ∧
    (∀ chosen tx, w.planSpend u bal amount fee recipient change = .ok (chosen, tx) →
      Gen.create_spend amount fee (keyAtoms w u bal enc) =
        some (chosen.map (fun x => enc x.1), tx.outputs.map (·.value), chosen.map (fun x => enc x.1))) := by
  have hs := takeUntil_spec u (amount + fee) val (refAtom w u enc) (refAtom_val w u enc) (w.candidates bal) 0
  rw [create_spend_eq_reach, flat_keyAtoms]
  split at hs
  · obtain ⟨r, hr, hn⟩ := hs
    have := hpresent r hr
    rw [hn] at this; cases this
  · next htake => simp [planSpend_insufficient htake, hs]
  · next chosen collected htake =>
    obtain ⟨hr, _, hcol⟩ := hs
    rw [Nat.zero_add, sum_val] at hcol
    have hids : ids (chosen.map fun x => refAtom w u enc x.1) = chosen.map (fun x => enc x.1) := by
      simp [ids, refAtom, Function.comp_def]
    rw [planSpend_ok htake, hr]
    refine ⟨by simp, fun chosen' tx heq => ?_⟩
    cases heq
    simp only [Option.map_some, spendOf, hids, outputsFor, ← hcol]
    split <;> rfl

/-- no other error: with every candidate in the unspent set, `Wallet.planSpend` either plans a transaction or raises
"Insufficient balance" -/
theorem model_plan_total (w : Wallet) (u : Utxo) (bal : PKBalances) (amount fee : Nat)
    (recipient change : Bytes) (hpresent : ∀ r ∈ w.candidates bal, (u.get? r).isSome) :
    w.planSpend u bal amount fee recipient change = .error (.other "Insufficient balance") ∨
      ∃ chosen tx, w.planSpend u bal amount fee recipient change = .ok (chosen, tx) := by
  cases ht : takeUntil u (amount + fee) (w.candidates bal) 0 with
  | error e =>
    obtain ⟨r, hr, hn⟩ := takeUntil_error ht
    have := hpresent r hr
    rw [hn] at this; cases this
  | ok res =>
    cases res with
    | none => exact .inl (planSpend_insufficient ht)
    | some p => exact .inr ⟨_, _, planSpend_ok ht⟩

/-- after a successful `Wallet.createSpend` the wallet's record of used outputs is the old record plus exactly the chosen
references, and their encodings are the third component (references newly recorded as used) of the translated result — which
are also its inputs; nothing else about the wallet changes, and the signed transaction has the translated output values -/
theorem model_createSpend_is_translated (w w' : Wallet) (u : Utxo) (bal : PKBalances) (amount fee : Nat)
    (recipient change : Bytes) (sigs : List Bytes) (signed : Tx) (enc : OutRef → Nat)
    (hpresent : ∀ r ∈ w.candidates bal, (u.get? r).isSome)
    (h : w.createSpend u bal amount fee recipient change sigs = .ok (w', signed)) :
    ∃ newRefs : List OutRef,
      w'.spent = w.spent ++ newRefs ∧
      w' = { w with spent := w.spent ++ newRefs } ∧
      signed.inputs.map (·.ref) = newRefs ∧
      Gen.create_spend amount fee (keyAtoms w u bal enc) =
        some (newRefs.map enc, signed.outputs.map (·.value), newRefs.map enc) := by
  obtain ⟨chosen, collected, htake, _, hlen, hin, hout, hw⟩  := createSpend_ok h
  have htr := (model_plan_is_translated w u bal amount fee recipient change enc hpresent).2 _ _ (planSpend_ok htake)
  refine ⟨chosen.map (·.1), by rw [hw], hw, by rw [hin]; exact signedInputs_refs chosen sigs hlen, ?_⟩
  rw [hout]
  simpa [List.map_map, Function.comp_def] using htr

example : Gen.create_spend 5 0 [some [(false, 3, 10)], none, some [(true, 9, 11), (false, 7, 12)]] =
    some ([10, 12], [5, 5], [10, 12]) := by decide

/-- exact amount: no change output -/
example : Gen.create_spend 8 2 [some [(false, 3, 10)], none, some [(true, 9, 11), (false, 7, 12), (false, 1, 13)]] =
    some ([10, 12], [8], [10, 12]) := by decide

/-- insufficient: the used reference does not count -/
example : Gen.create_spend 11 0 [some [(false, 3, 10)], none, some [(true, 9, 11), (false, 7, 12)]] = none := by decide

/-- nothing to spend: `none` even for a zero amount -/
example : Gen.create_spend 0 0 [none, some [(true, 9, 11)]] = none := by decide

/-- a zero amount takes the first unused reference and returns it all as change -/
example : Gen.create_spend 0 0 [none, some [(true, 9, 11), (false, 4, 12)]] = some ([12], [0, 4], [12]) := by decide

example : flat [some [(false, 3, 10)], none, some [(true, 9, 11), (false, 7, 12)]] = [(false, 3, 10), (false, 7, 12)] := by
  decide

example : IsShortestReaching 5 [(false, 3, 10), (false, 7, 12)] [(false, 3, 10), (false, 7, 12)] :=
  (reach_eq_some_iff _ _ _).1 (by decide)

end GenTie
