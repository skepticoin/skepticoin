import Model.Node
import Gen.CatchAll

/-!
GenTie.CatchAllRule — `LocalPeer.handle_remote_peer_selector_event` (the catch-all that C20 rests on) and `LocalPeer.disconnect`,
regenerated by symbolic execution of their `try` / `except OSError` / `except Exception` structure: every call that can fail
is an atom with three ends (returns, raises an OSError, raises another Exception).

* nothing of class `Exception` leaves the event handler or `disconnect`, whatever the calls inside do;
* the receiver is handed data exactly when the read bit is set, `recv` returned and returned something;
* on an event with the read bit only, the connection is disconnected exactly when `recv` failed, returned nothing, or the
  receiver raised — of whatever class; a disconnect made by one of the two exception handlers is the last effect;
* `disconnect` tells the network manager only after the selector entry is removed and the socket closed, and an error in any
  of the three is swallowed;
* the model's `handleEvent` is that function on the model's classification of what arrives.

Trusted: logging calls (`self.logger.…`) do not raise; exceptions outside class `Exception` (KeyboardInterrupt, SystemExit) are
not modelled.
-/

namespace GenTie.CatchAll
open Model Gen

/-! The statements about `selector_event` / `disconnect_effects` are proved along the translated tree (`fun_cases`): one case
per end of the function, with the tests passed on the way as hypotheses and the effect list concrete. -/

def isDisconnect (e : String) : Bool := e == "disconnect" || e == "disconnect_in_handler"

/-- C20: no exception (of class Exception) leaves the per-connection event handler -/
theorem never_escapes (r w ne : Bool) (a b c : CallEnd) : (selector_event r w ne a b c).2 = false := by
  fun_cases selector_event r w ne a b c <;> rfl

theorem disconnect_never_raises (a b c : CallEnd) : (disconnect_effects a b c).2 = false := by
  fun_cases disconnect_effects a b c <;> rfl

/-- the network manager hears of the disconnection exactly when the selector entry was removed and the socket closed -/
theorem notify_iff (a b c : CallEnd) :
    "handle_peer_disconnected" ∈ (disconnect_effects a b c).1 ↔ a = .returns ∧ b = .returns := by
  fun_cases disconnect_effects a b c <;> simp

/-- the receiver gets data exactly on a read event whose `recv` returned a non-empty byte string -/
theorem handler_called_iff (r w ne : Bool) (a b c : CallEnd) :
    "handle_receive_data" ∈ (selector_event r w ne a b c).1 ↔ r = true ∧ a = .returns ∧ ne = true := by
  fun_cases selector_event r w ne a b c <;> simp_all

/-- it reads at most `recv_size` bytes, once -/
theorem one_read_of_1024 (r w ne : Bool) (a b c : CallEnd) :
    recv_size = 1024 ∧ ((selector_event r w ne a b c).1.count "recv" = if r then 1 else 0) := by
  refine ⟨rfl, ?_⟩
  fun_cases selector_event r w ne a b c <;> simp_all

/-- on a read event: disconnected exactly when `recv` failed, nothing was received, or the receiver raised -/
theorem read_event_disconnects_iff (ne : Bool) (a b c : CallEnd) :
    (selector_event true false ne a b c).1.any isDisconnect = true ↔ a ≠ .returns ∨ ne = false ∨ b ≠ .returns := by
  fun_cases selector_event true false ne a b c <;> simp_all [isDisconnect]

/-- the class of what was raised does not matter -/
theorem class_irrelevant (r w ne : Bool) (a c : CallEnd) :
    (selector_event r w ne a .osError c).1.any isDisconnect = (selector_event r w ne a .otherError c).1.any isDisconnect := by
  cases r <;> cases w <;> cases ne <;> cases a <;> cases c <;> decide

/-- a disconnect made by one of the two handlers is the last thing the function does -/
theorem handler_disconnect_is_last (r w ne : Bool) (a b c : CallEnd) (e : String)
    (he : e ∈ (selector_event r w ne a b c).1) (hk : e = "disconnect_in_handler") :
    (selector_event r w ne a b c).1.getLast? = some e := by
  subst hk
  revert he
  fun_cases selector_event r w ne a b c <;> simp

/-- whenever a call made by the handler raised, the connection is disconnected -/
theorem any_failure_disconnects (r w ne : Bool) (a b c : CallEnd)
    (h : (r = true ∧ a ≠ .returns) ∨ ("handle_receive_data" ∈ (selector_event r w ne a b c).1 ∧ b ≠ .returns) ∨
         ("handle_can_send" ∈ (selector_event r w ne a b c).1 ∧ c ≠ .returns)) :
    (selector_event r w ne a b c).1.any isDisconnect = true := by
  revert h
  fun_cases selector_event r w ne a b c <;> simp_all [isDisconnect]

variable (C : Crypto) (P : Params)

/-- the model's classification of what arrives, as atoms of the translated handler: (something was received, how the
receiver's call ends) and the node after the receiver's call -/
def atomsOf (n : Node) (c : Nat) (now : Int) : Incoming → Bool × CallEnd × Node
  | .closed => (false, .returns, n)
  | .undecodable => (true, .otherError, n)
  | .badFrame => (true, .otherError, n)
  | .msg i r m =>
    let res := handleMessage C P n c i r m now
    (true, if res.2.isSome then .otherError else .returns, res.1)

theorem match_as_translated (c : Nat) (x : Node × Option Err) :
    (match x with
      | (n', none) => n'
      | (n', some _) => n'.disconnect c) =
      if (selector_event true false true .returns (if x.2.isSome then .otherError else .returns) .returns).1.any isDisconnect
      then x.1.disconnect c else x.1 := by
  obtain ⟨n', e⟩ := x
  cases e <;> rfl

theorem model_event_as_translated (n : Node) (c : Nat) (ev : Incoming) (now : Int) :
    handleEvent C P n c ev now =
      let x := atomsOf C P n c now ev
      if (selector_event true false x.1 .returns x.2.1 .returns).1.any isDisconnect then x.2.2.disconnect c else x.2.2 := by
  cases ev with
  | closed => rfl
  | undecodable => rfl
  | badFrame => rfl
  | msg i r m =>
    simp only [handleEvent, atomsOf]
    exact match_as_translated c _

end GenTie.CatchAll
