import Proofs.Validation
import Proofs.Scan
import Gen.BlockInStateOk

/-!
GenTie.BlockRule — the decision of `validate_block_in_coinstate`, translated from the current source over declared atoms, is
the model's: at or below the checkpoint horizon (`height ≤ MAX_KNOWN_HASH_HEIGHT`, **inclusive**) only the checkpoint
comparison decides and nothing else is looked at; above it the summary rules, the evidence comparison, the reward rule and
the rules of **every** other transaction decide.
-/

namespace GenTie
open Model

theorem block_loop_eq (others : List Bool) :
    Gen.block_in_state_ok.loop others = if others.all id then some () else none :=
  scan_eq rfl (fun x rest => by rw [Gen.block_in_state_ok.loop]; cases x <;> rfl) others

theorem block_in_state_ok_eq (h : Nat) (inTable idDiffers summaryOk evDiffers cbOk : Bool) (others : List Bool) :
    Gen.block_in_state_ok h inTable idDiffers summaryOk evDiffers cbOk others =
      if h ≤ Gen.MAX_KNOWN_HASH_HEIGHT then !(inTable && idDiffers)
      else (summaryOk && !evDiffers && cbOk && others.all id) := by
  have hl := block_loop_eq others
  generalize others.all id = a at hl ⊢
  fun_cases Gen.block_in_state_ok h inTable idDiffers summaryOk evDiffers cbOk others <;> simp_all +zetaDelta <;> omega

/-- at the horizon itself the checkpoint still decides -/
theorem horizon_is_inclusive (inTable idDiffers summaryOk evDiffers cbOk : Bool) (others : List Bool) :
    Gen.block_in_state_ok Gen.MAX_KNOWN_HASH_HEIGHT inTable idDiffers summaryOk evDiffers cbOk others =
      !(inTable && idDiffers) := by
  rw [block_in_state_ok_eq]; simp

-- `Except.isOk`; a tie is built, or skipped, on its own and so declares its own copy
def okB {α : Type} (x : Except Err α) : Bool := match x with | .ok _ => true | .error _ => false

theorem okB_eq {α : Type} (x : Except Err α) : okB x = x.isOk := by cases x <;> rfl

theorem model_block_in_state_as_translated (C : Crypto) (cs : CoinState) (b : Block) (ev : Evidence) (cb : CTx)
    (rest : List CTx) (u : Utxo)
    (hev : constructEvidence C Gen.params cs b.header.summary b.height b.txs = .ok ev)
    (htx : b.txs = cb :: rest) (hu : cs.utxoAt.get? b.prev = some u) :
    validateBlockInState C Gen.params cs b = .ok () ↔
      Gen.block_in_state_ok b.height (Gen.params.knownHashes.lookup b.height).isSome
        (match Gen.params.knownHashes.lookup b.height with | some h => decide (b.id C ≠ h) | none => false)
        (okB (validateSummaryInState C Gen.params cs b.header.summary))
        (decide (b.header.evidence ≠ ev))
        (okB (validateCoinbaseInState Gen.params cs cb b))
        (rest.map fun t => okB (validateTxInState C u t)) = true := by
  have hmax : ((b.height : Int) ≤ Gen.params.maxKnownHeight) ↔ b.height ≤ Gen.MAX_KNOWN_HASH_HEIGHT :=
    Int.ofNat_le (m := b.height) (n := Gen.MAX_KNOWN_HASH_HEIGHT)
  rw [htx] at hev
  rw [block_in_state_ok_eq, eq_ok_iff_isOk, validateBlockInState, htx]
  simp only [hmax, hev, hu]
  split
  · cases Gen.params.knownHashes.lookup b.height <;> simp [ok, isOk_require, isOk_ok]
  · simp [ok_bind, isOk_bind_unit, isOk_require, isOk_forAll, okB_eq, List.all_map, Function.comp_def, Bool.and_assoc]

end GenTie
