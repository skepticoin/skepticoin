import Model.Node
import Gen.HandleBlockEffects
import Proofs.NodeLemmas

/-!
GenTie.HandleBlockRule — `ConnectedRemotePeer.handle_block_received`, translated from the current source as a decision tree
over declared atoms whose leaves are the effects performed in order (and whether an exception escapes), is the model's
`handleBlockReceived`: running the translated effect list on the model's node state gives exactly the model's resulting node,
and an exception escapes in the translated tree exactly when the model reports one — for every node state, connection, block,
clock and reply flag.

In particular the block is applied to the prior state **before** it is put into the store's write buffer, a rejection by
in-state validation rolls back to the last validated state and clears the buffer, an accepted block is flushed, and only an
unsolicited new head is relayed.
-/

namespace GenTie
open Model

/-- what each effect token does to the model's node -/
def runEffect (C : Crypto) (c : Nat) (b : Block) (changed : CoinState) (n : Node) : String → Node
  | "remove_from_inventory" =>
      n.updatePeer c fun p => { p with pendingInventory := p.pendingInventory.erase (b.id C) }
  | "apply" => n                                   -- computes the changed chain state; the node is untouched
  | "buffer" => { n with wbuf := n.wbuf ++ [b] }
  | "rollback" =>
      { n with mgr := match n.mgr.lastValid with | some lv => setCoinstate C n.mgr lv true | none => n.mgr }
  | "clear_buffer" => { n with wbuf := [] }
  | "adopt_validated" => { n with mgr := setCoinstate C n.mgr changed true }
  | "flush" => Node.flush C n
  | "adopt_unvalidated" => { n with mgr := setCoinstate C n.mgr changed false }
  | "broadcast" => n.broadcast (.block b 0)
  | _ => n

-- `Except.isOk` (`okB_eq` in BlockRule); a tie is built, or skipped, on its own and so declares its own copy
def okB2 {α : Type} (x : Except Err α) : Bool := match x with | .ok _ => true | .error _ => false

-- `Model.updatePeer_mgr` and `Model.updatePeer_wbuf` of Proofs/NodeLemmas over again
theorem updatePeer_mgr (n : Node) (c : Nat) (f : PeerSt → PeerSt) : (n.updatePeer c f).mgr = n.mgr := rfl
theorem updatePeer_wbuf (n : Node) (c : Nat) (f : PeerSt → PeerSt) : (n.updatePeer c f).wbuf = n.wbuf := rfl

/-- the refinement: the model's handler is the translated effect tree, run on the model's state -/
theorem model_handler_is_translated_effects (C : Crypto) (n : Node) (c irt : Nat) (b : Block) (now : Int)
    (changed : CoinState)
    (happly : ∀ cs, addBlockNoValidation C n.mgr.coinstate b = .ok cs → cs = changed)
    (hhead : ∀ cs, addBlockNoValidation C n.mgr.coinstate b = .ok cs → cs.head.isSome) :
    let prior := n.mgr.coinstate
    let eff := Gen.handle_block_effects (prior.blocks.contains (b.id C)) (prior.blocks.contains b.prev)
      (okB2 (validateBlockByItself C Gen.params b now)) (okB2 (addBlockNoValidation C prior b)) (decide (irt = 0))
      b.height (okB2 (validateBlockInState C Gen.params prior b)) n.mgr.lastValid.isSome
      (match changed.head with | some hd => blockEq b hd | none => false)
    (handleBlockReceived C Gen.params n c irt b now).1 = eff.1.foldl (runEffect C c b changed) n ∧
    ((handleBlockReceived C Gen.params n c irt b now).2.isSome = eff.2) := by
  intro prior eff
  have hskip : Gen.params.ibdValidationSkip = Gen.IBD_VALIDATION_SKIP := rfl
  rw [handleBlockReceived_eq]
  simp only [eff, prior, Gen.handle_block_effects]
  -- one case per verdict of the model; the tests passed on the way fix the atoms the translated tree reads
  -- (1 known id, 2 unknown parent, 3 invalid by itself, 4 the update raises, 5 refused, 6 accepted, 7 adopted unvalidated)
  fun_cases blockVerdict C Gen.params n.mgr.coinstate irt b now
  case case1 hk => simp [hk, runEffect, BlockVerdict.exec]
  case case2 hk hp => simp [hk, hp, runEffect, BlockVerdict.exec]
  case case3 hk hp _ hv => simp [hk, hp, hv, okB2, runEffect, BlockVerdict.exec]
  case case4 hk hp _ hv _ ha => simp [hk, hp, hv, ha, okB2, runEffect, BlockVerdict.exec]
  case case5 hk hp _ hv cs ha hr _ hs =>
    rw [hskip] at hr
    cases hl : n.mgr.lastValid <;>
      simp [hk, hp, hv, ha, hr, hs, hl, okB2, runEffect, BlockVerdict.exec, fallBack]
  case case6 hk hp _ hv cs ha hr _ hs =>
    rw [hskip] at hr
    obtain ⟨hd, hhd⟩ := Option.isSome_iff_exists.mp (hhead cs ha)
    cases happly cs ha
    by_cases hrel : blockEq b hd = true ∧ irt = 0 <;>
      simp [hk, hp, hv, ha, hr, hs, hhd, hrel, okB2, runEffect, BlockVerdict.exec]
  case case7 hk hp _ hv cs ha hr =>
    rw [hskip] at hr
    obtain ⟨h0, hm⟩ := not_or.mp hr
    cases happly cs ha
    simp [hk, hp, hv, ha, h0, hm, okB2, runEffect, BlockVerdict.exec]

end GenTie
