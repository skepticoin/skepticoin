import Props.GenTie.Subsidy
import Proofs.Validation
import Gen.CoinbaseInStateOk

/-!
GenTie.CoinbaseRule — the decision of `validate_coinbase_transaction_in_coinstate`, translated from the current source over
declared atoms (the parent's height, the block's height, the fees of the other transactions, the reward's output values), is
the model's: height = parent's + 1, and the reward's outputs sum to at most the fees plus the subsidy **of the block's own
height**.
-/

namespace GenTie
open Model

theorem coinbase_in_state_ok_eq (ph bh : Nat) (fees : Int) (outs : List Nat) :
    Gen.coinbase_in_state_ok ph bh fees outs =
      (decide (bh = ph + 1) && decide ((outs.sum : Int) ≤ fees + (subsidy Gen.params bh : Int))) := by
  refine Bool.eq_iff_iff.mpr ?_
  fun_cases Gen.coinbase_in_state_ok ph bh fees outs <;> simp +zetaDelta [get_block_subsidy_eq] at * <;> omega

/-- `validateCoinbaseInState` succeeds exactly when the translated decision says so (atoms: the parent's height, the
block's height, the fees of the other transactions against the parent's unspent set, the reward's output values) -/
theorem model_coinbase_in_state_as_translated (cs : CoinState) (cb : CTx) (b pb : Block) (u : Utxo) (fees : Int)
    (hpb : cs.blocks.get? b.prev = some pb) (hu : cs.utxoAt.get? b.prev = some u)
    (hf : blockFees u b.txs.tail = .ok fees) :
    validateCoinbaseInState Gen.params cs cb b = .ok () ↔
      Gen.coinbase_in_state_ok pb.height b.height fees (cb.tx.outputs.map (·.value)) = true := by
  rw [coinbase_in_state_ok_eq, eq_ok_iff_isOk, validateCoinbaseInState]
  simp only [hpb, hu, hf, ok_bind, isOk_bind_unit, isOk_require, outputsValue]
  exact Iff.rfl

end GenTie
