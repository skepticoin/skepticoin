import Gen.Params

/-!
The constants regenerated from /repo are the documented ones. A changed constant in skepticoin/params.py,
networking/params.py, networking/disk_interface.py or networking/remote_peer.py (`MAGIC`) breaks one of these.
-/

namespace GenTie

/-- C16 / C02: 10 coin of 10^8 sashimi, halving every 1,050,000 blocks, 20,999,999.8635 coin -/
theorem monetary_params :
    Gen.params.initialSubsidy = 10 * 100000000 ∧ Gen.params.halvingInterval = 1050000 ∧
    Gen.params.maxSashimi = 2099999986350000 ∧ Gen.SASHIMI_PER_COIN = 100000000 := by decide

/-- C05: 10,080-block period, 1,209,600 s, 30 s into the future -/
theorem header_params :
    Gen.params.retargetInterval = 10080 ∧ Gen.params.retargetTimespan = 1209600 ∧
    Gen.params.maxFutureBlockTime = 30 := by decide

/-- C05 / C12: limits used by validation and sampling -/
theorem size_params :
    Gen.params.maxBlockSize = 200000 ∧ Gen.params.maxCoinbaseData = 200 ∧
    Gen.params.sampleCount = 8 ∧ Gen.params.sampleSize = 4 ∧
    Gen.params.sampleCount * Gen.params.sampleSize = 32 := by decide

/-- C19: 10 s doubling to 30 min, give up after 2880, peer file of 100 -/
theorem peer_params :
    Gen.params.timeToSecondAttempt = 10 ∧ Gen.params.maxTimeBetweenAttempts = 1800 ∧
    Gen.params.maxConnectionAttempts = 2880 ∧ Gen.params.peersFileMax = 100 := by decide

/-- C11 / C10: framing and inventory -/
theorem net_params :
    Gen.MAGIC = [77, 65, 74, 73] ∧ Gen.params.maxMessageSize = 32 * 1024 * 1024 ∧
    Gen.params.inventorySize = 500 ∧ Gen.params.ibdValidationSkip = 10000 := by decide

end GenTie
