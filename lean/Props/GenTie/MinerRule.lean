import Model.Node
import Gen.MinerFoundEffects
import Gen.MinerRequestEffects
import Proofs.Mining

/-!
GenTie.MinerRule — `MinerWatcher.handle_scrypt_output_message` (up to the flush; what follows is bookkeeping of the miner's wallet
and statistics), translated from the current source as an effect tree, is the model's `minerFound`: a candidate whose id is not
below target has no effect; otherwise the block is first validated and added to the state the candidate was built on (a failure
escapes and nothing else happens), **then** installed as the served state, broadcast, put into the write buffer and flushed.
-/

namespace GenTie
open Model

def runMinerEffect (C : Crypto) (b : Block) (added : CoinState) (n : Node) : String → Node
  | "validate_and_add" => n                       -- computes the new chain state; the node is untouched
  | "adopt_validated" => { n with mgr := setCoinstate C n.mgr added true }
  | "broadcast" => n.broadcast (.block b 0)
  | "buffer" => { n with wbuf := n.wbuf ++ [b] }
  | "flush" => Node.flush C n
  | _ => n

-- `Except.isOk` (`okB_eq` in BlockRule); a tie is built, or skipped, on its own and so declares its own copy
def okB3 {α : Type} (x : Except Err α) : Bool := match x with | .ok _ => true | .error _ => false

/-- the refinement, for a candidate whose evidence can be completed -/
theorem model_miner_is_translated_effects (C : Crypto) (n : Node) (cs : CoinState) (s : Summary) (height : Nat)
    (txs : List CTx) (sh : Bytes) (now : Int) (ev : Evidence) (added : CoinState)
    (hev : evidenceAfterScrypt C Gen.params cs sh s height txs = .ok ev)
    (hadd : ∀ cs', addBlock C Gen.params cs (Block.fresh ⟨s, ev⟩ txs) now = .ok cs' → cs' = added) :
    let b := Block.fresh ⟨s, ev⟩ txs
    let eff := Gen.miner_found_effects (!(bytesLt (b.id C) b.target)) (okB3 (addBlock C Gen.params cs b now))
    (minerFound C Gen.params n cs s height txs sh now).1.1 = eff.1.foldl (runMinerEffect C b added) n ∧
    ((minerFound C Gen.params n cs s height txs sh now).1.2.isSome = eff.2) := by
  intro b eff
  simp only [eff]
  -- the ends of the translated tree: 1 not a solution, 2 the node's own validation refuses, 3 added
  fun_cases Gen.miner_found_effects (!(bytesLt (b.id C) b.target)) (okB3 (addBlock C Gen.params cs b now))
  case case1 _ hns =>
    rw [minerFound_unsolved n hev (by simpa using hns)]
    exact ⟨rfl, rfl⟩
  case case2 _ hsol _ hno =>
    have hsol' : bytesLt (b.id C) b.target = true := by simpa using hsol
    obtain ⟨e, h⟩ := minerFound_refused (now := now) n hev hsol' fun cs' ha => by simp [b, ha, okB3] at hno
    rw [h]
    exact ⟨rfl, rfl⟩
  case case3 _ hsol _ hok _ _ _ _ =>
    have hsol' : bytesLt (b.id C) b.target = true := by simpa using hsol
    cases ha : addBlock C Gen.params cs b now with
    | error e => simp [ha, okB3] at hok
    | ok cs' =>
      cases hadd cs' ha
      rw [minerFound_ok n hev hsol' ha]
      simp +zetaDelta [runMinerEffect, adoptFound]

/-! ### the work request (`handle_request_scrypt_input_message`) -/

/-- what the watcher holds while it serves a work request: the state it last read (`self.coinstate`), the pool it read with
it, the clock value chosen for the candidate -/
structure WatcherSt where
  coinstate : CoinState
  pool : List CTx
  timestamp : Option Nat

def runRequestEffect (served : ChainMgr) (clock : Nat) (w : WatcherSt) : String → WatcherSt
  | "refresh_state" => { w with coinstate := served.coinstate, pool := served.pool }
  | "timestamp_after_current_head" =>
      { w with timestamp := (w.coinstate.head).map fun hd => max clock (hd.timestamp + 1) }
  | _ => w

/-- the statements of the request handler, in this order: the served state is read first, the candidate's timestamp is then taken
from **that** state's head, the candidate is assembled from both, remembered and sent to the miner process -/
theorem miner_request_order :
    Gen.miner_request_effects =
      (["refresh_state", "timestamp_after_current_head", "assemble", "remember_candidate", "send_input"], false) := by
  rfl

/-- so the timestamp handed to the assembler is the model's `max clock (head.timestamp + 1)` for the head of the state the
candidate is built on, whatever state the watcher held before the request -/
theorem model_candidate_timestamp_is_translated (served : ChainMgr) (clock : Nat) (w₀ : WatcherSt) (hd : Block)
    (hh : served.coinstate.head = some hd) :
    let w := (Gen.miner_request_effects.1.take 2).foldl (runRequestEffect served clock) w₀
    w.coinstate = served.coinstate ∧ w.pool = served.pool ∧ w.timestamp = some (max clock (hd.timestamp + 1)) := by
  rw [miner_request_order]
  simp [runRequestEffect, hh]

end GenTie
