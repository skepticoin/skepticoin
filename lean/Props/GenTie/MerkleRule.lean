import Proofs.Merkle
import Gen.Merkle

/-!
GenTie.MerkleRule — `merkletree.get_merkle_root` (with `_chunks`, transcribed literally as slices at the indices `range(0, len, n)`)
and `consensus.calc_merkle_root_hash`, translated from the current source, are the model's `merkleRootFuel` / `merkleRoot`:
one level pairs neighbours (hash of the concatenation) and promotes an odd last entry unchanged; the header commitment is the root
over the transaction ids in block order.
-/

namespace GenTie
open Model

theorem chunks_cons_cons {α : Type} (a b : α) (rest : List α) :
    Gen.chunks (a :: b :: rest) 2 = [a, b] :: Gen.chunks rest 2 := by
  unfold Gen.chunks
  have hlen : ((a :: b :: rest).length + 2 - 1) / 2 = (rest.length + 2 - 1) / 2 + 1 := by
    simp only [List.length_cons]; omega
  rw [hlen, List.range_succ_eq_map]
  simp only [List.map_cons, List.map_map, Nat.zero_mul, List.drop_zero, List.take_succ_cons, List.take_zero]
  congr 1
  apply List.map_congr_left
  intro k _
  simp only [Function.comp, Nat.succ_eq_add_one]
  have : (k + 1) * 2 = k * 2 + 2 := by omega
  rw [this]
  rfl

theorem chunks_nil {α : Type} : Gen.chunks ([] : List α) 2 = [] := by
  simp [Gen.chunks]

theorem chunks_singleton {α : Type} (a : α) : Gen.chunks [a] 2 = [[a]] := by
  simp [Gen.chunks, List.range_succ_eq_map]

/-- one level of the translated loop is the model's `pairUp` -/
theorem level_is_pairUp (h : Bytes → Bytes) : ∀ (n : Nat) (l : List Bytes), l.length ≤ n →
    (Gen.chunks l 2).mapM (Gen.get_merkle_root.item h) = some (pairUp h l) := by
  -- `n` and the bound are not used: one level does not depend on the fuel
  suffices key : ∀ l, (Gen.chunks l 2).mapM (Gen.get_merkle_root.item h) = some (pairUp h l) from
    fun _ l _ => key l
  intro l
  -- the ends of `pairUp`: 1 a pair and the rest, 2 one entry left (promoted), 3 none
  fun_induction pairUp h l with
  | case1 a b rest ih => rw [chunks_cons_cons, List.mapM_cons]; simp [Gen.get_merkle_root.item, ih]
  | case2 a => simp [chunks_singleton, Gen.get_merkle_root.item]
  | case3 => simp [chunks_nil]

/-- the translated root is the model's, for every fuel and every list -/
theorem get_merkle_root_eq (h : Bytes → Bytes) (fuel : Nat) : ∀ l : List Bytes,
    Gen.get_merkle_root h fuel l = merkleRootFuel h fuel l := by
  induction fuel with
  | zero => intro l; simp [Gen.get_merkle_root, merkleRootFuel]
  | succ f ih =>
    intro l
    match l with
    | [] =>
      simp only [Gen.get_merkle_root, List.length_nil, Nat.zero_ne_one, ↓reduceIte, level_is_pairUp h 0 [] (by simp)]
      rw [ih]; rfl
    | [x] => simp [Gen.get_merkle_root, Merkle.rootFuel_singleton]
    | x :: y :: r =>
      have hl := level_is_pairUp h (x :: y :: r).length (x :: y :: r) (Nat.le_refl _)
      simp only [Gen.get_merkle_root, hl, Merkle.rootFuel_cons_cons]
      rw [ih]
      simp

/-- the header commitment as translated is the model's `merkleRoot` over the ids in block order -/
theorem calc_merkle_root_hash_eq (h : Bytes → Bytes) (ids : List Bytes) :
    Gen.calc_merkle_root_hash h ids.length ids = merkleRoot h ids := by
  unfold Gen.calc_merkle_root_hash merkleRoot
  exact get_merkle_root_eq h _ _

end GenTie
