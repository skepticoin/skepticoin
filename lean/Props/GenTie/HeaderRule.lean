import Proofs.Validation
import Gen.HeaderByItselfOk

/-!
GenTie.HeaderRule — the decision of `validate_block_header_by_itself`, translated from the current source over declared atoms,
is the model's: proof of work, then timestamp at most `MAX_FUTURE_BLOCK_TIME` ahead of the clock.
-/

namespace GenTie
open Model

theorem header_by_itself_ok_eq (pow : Bool) (ts : Nat) (now : Int) :
    Gen.header_by_itself_ok pow ts now =
      (pow && decide ((ts : Int) ≤ now + (Gen.params.maxFutureBlockTime : Int))) := by
  have hp : (Gen.params.maxFutureBlockTime : Int) = (Gen.MAX_FUTURE_BLOCK_TIME : Int) := rfl
  fun_cases Gen.header_by_itself_ok pow ts now <;> simp_all +zetaDelta <;> omega

/-- `validateHeaderByItself` succeeds exactly when the translated decision says so (atoms: proof of work = id below
target; timestamp; clock) -/
theorem model_header_by_itself_as_translated (C : Crypto) (h : Header) (now : Int) :
    validateHeaderByItself C Gen.params h now = .ok () ↔
      Gen.header_by_itself_ok (bytesLt (C.sha256d (encHeader h)) h.summary.target) h.summary.timestamp now = true := by
  rw [validateHeaderByItself_ok, header_by_itself_ok_eq]
  simp

end GenTie
