import Model.Wallet
import Gen.HandOutEffects
import Gen.RestoreEffects

/-!
GenTie.WalletKeysRule — `Wallet.get_annotated_public_key` / `restore_annotated_public_key`, translated from the current source as
effect trees, are the model's `Wallet.handOut` / `Wallet.restore`: while unused keys remain the **last** one is popped,
annotated and returned (a key that was popped is no longer unused); with none left a known key is re-used and the wallet is
unchanged; a restore removes the annotation (raising for a key that carries none) and appends the key to the unused ones.
-/

namespace GenTie
open Model

/-- state of the hand-out: the wallet and the popped key -/
def runHandOutEffect (annotation : String) (st : Wallet × Option Bytes) : String → Wallet × Option Bytes
  | "pop_last_unused" => ({ st.1 with unused := st.1.unused.dropLast }, st.1.unused.getLast?)
  | "annotate_popped" =>
      (match st.2 with
        | some pk => ({ st.1 with annotations := (st.1.annotations.filter (·.1 ≠ pk)) ++ [(pk, annotation)] }, st.2)
        | none => st)
  | _ => st

theorem model_hand_out_is_translated_effects (w : Wallet) (annotation : String) (choice : Nat) :
    let eff := Gen.hand_out_effects (w.unused.length == 0)
    eff.2 = false ∧
    (match w.handOut annotation choice with
      | some (w', pk) =>
          w' = (eff.1.foldl (runHandOutEffect annotation) (w, none)).1 ∧
          (("return_popped" ∈ eff.1 ∧ (eff.1.foldl (runHandOutEffect annotation) (w, none)).2 = some pk) ∨
           ("return_random_known_key" ∈ eff.1 ∧ pk ∈ w.keys))
      | none => "return_random_known_key" ∈ eff.1 ∧ w.keys = []) := by
  intro eff
  simp only [eff, Wallet.handOut]
  -- the list of unused keys is empty, or ends in the key that is popped
  rcases List.eq_nil_or_concat w.unused with hu | ⟨l, pk, hu⟩
  · simp only [hu]
    cases hk : w.keys[choice % w.keys.length]? with
    | some pk => simp [Gen.hand_out_effects, runHandOutEffect, List.mem_of_getElem? hk]
    | none =>
      -- `choice % length` is an index unless there is no key at all
      have hkeys : w.keys = [] := List.eq_nil_of_length_eq_zero (Nat.eq_zero_of_not_pos fun hp =>
        absurd (Nat.mod_lt choice hp) (Nat.not_lt.mpr (List.getElem?_eq_none_iff.mp hk)))
      simp [Gen.hand_out_effects, hkeys]
  · simp [Gen.hand_out_effects, runHandOutEffect, hu]

def runRestoreEffect (pk : Bytes) (w : Wallet) : String → Wallet
  | "remove_annotation" => { w with annotations := w.annotations.filter (·.1 ≠ pk) }
  | "append_unused" => { w with unused := w.unused ++ [pk] }
  | _ => w

theorem model_restore_is_translated_effects (w : Wallet) (pk : Bytes) :
    let eff := Gen.restore_effects (w.annotations.any (·.1 = pk))
    (match w.restore pk with
      | some w' => eff.2 = false ∧ w' = eff.1.foldl (runRestoreEffect pk) w
      | none => eff.2 = true) := by
  intro eff
  simp only [eff, Gen.restore_effects]
  unfold Wallet.restore
  by_cases h : w.annotations.any (·.1 = pk) = true
  · simp [h, runRestoreEffect]
  · have h' : w.annotations.any (·.1 = pk) = false := Bool.eq_false_iff.mpr h
    simp [h']

end GenTie
