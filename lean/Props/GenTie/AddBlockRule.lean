import Model.Consensus
import Gen.AddBlockEffects

/-!
GenTie.AddBlockRule — `CoinState.add_block` (full validation), translated from the current source as an effect tree, is the
model's `addBlock`: the block is validated by itself, then against the state, and only then applied — for **every** candidate,
whether or not a block with the same id is already stored; a failure of either validation escapes and nothing is applied.
-/

namespace GenTie
open Model

-- `Except.isOk` (`okB_eq` in BlockRule); a tie is built, or skipped, on its own and so declares its own copy
def okB5 {α : Type} (x : Except Err α) : Bool := match x with | .ok _ => true | .error _ => false

/-- the effects: both validations, unconditionally and in this order, then the application -/
theorem add_block_order (a b : Bool) :
    Gen.add_block_effects a b =
      if !a then (["by_itself"], true) else if !b then (["by_itself", "in_state"], true)
      else (["by_itself", "in_state", "apply"], false) := by
  cases a <;> cases b <;> rfl

theorem model_add_block_is_translated_effects (C : Crypto) (P : Params) (cs : CoinState) (b : Block) (now : Int) :
    let eff := Gen.add_block_effects (okB5 (validateBlockByItself C P b now)) (okB5 (validateBlockInState C P cs b))
    (eff.2 = true → ∃ e, addBlock C P cs b now = .error e) ∧
    (eff.2 = false → eff.1 = ["by_itself", "in_state", "apply"] ∧ addBlock C P cs b now = addBlockNoValidation C cs b) := by
  intro eff
  simp only [eff, add_block_order, addBlock]
  cases validateBlockByItself C P b now <;> cases validateBlockInState C P cs b <;> simp [okB5, bind, Except.bind]

end GenTie
