import Model.Types
import Props.C07
import Gen.MsgLayouts

/-!
GenTie.MsgLayout — the wire messages of networking/messages.py, regenerated: the two-byte type indicators, the dispatch of
`Message.stream_deserialize`, the `DATATYPES` table, and per class the decoder (as a codec built from the model's combinators),
the encoder (as an item list) and the constructor call.

* the model's message codecs **are** the regenerated decoders (up to the record constructors), `Msg.dec` is the regenerated
  dispatch over them, `Msg.enc` writes the type indicator the dispatcher tests for and then what the class's decoder reads —
  so C07's `message_roundtrip` / `frame_roundtrip` are theorems about the layouts the code has now;
* every encoder writes, field by field, what its decoder reads; every decoder hands the fields to `__init__` under the
  parameter of the same name.

Trusted for this tie: `IPv6Address(b).packed == b` for 16 bytes (standard library).
-/

namespace GenTie.Msg
open Model Model.Codec Gen.MsgLayout

-- `GenTie.itemAgrees` of GenTie/Layout.lean extended by the list, lookup and ignored-bytes items; `agree` and `fieldsOf` are as there
/-- a written item matches a read item -/
def itemAgrees (w r : String × String × String) : Bool :=
  ((w.2.2 == r.2.2) &&
    (((w.1 == r.1) && ((w.2.1 == r.2.1) || (w.2.1 == ""))) ||
     ((w.1 == "raw") && (r.1 == "fixed")) ||
     ((w.1 == "listraw") && (r.1 == "listfixed")) ||
     ((w.1 == "nested") && (r.1 == "lookup")))) ||
  -- bytes the decoder ignores: a constant byte or zeros of that many bytes
  ((r.1 == "ignored") && (r.2.2 == "") && (w.2.2 == "") &&
    (((w.1 == "const") && (r.2.1 == "1")) || ((w.1 == "zeros") && (w.2.1 == r.2.1))))

def agree (w r : List (String × String × String)) : Bool :=
  (w.length == r.length) && (List.zipWith itemAgrees w r).all id

def fieldsOf (items : List (String × String × String)) : List String :=
  (items.map (·.2.2)).filter (· != "")

/-- the type indicators and the two tables -/
theorem dispatch_tables :
    Message.dispatch = [([0, 0], "HelloMessage"), ([0, 1], "GetBlocksMessage"), ([0, 2], "InventoryMessage"),
      ([0, 3], "GetDataMessage"), ([0, 4], "DataMessage"), ([0, 5], "GetPeersMessage"), ([0, 6], "PeersMessage")] ∧
    DATATYPES = [([0, 0], "Block"), ([0, 1], "BlockHeader"), ([0, 2], "Transaction")] := ⟨rfl, rfl⟩

/-- no two message classes (and no two data classes) share a type indicator -/
theorem type_indicators_distinct :
    (Message.dispatch.map (·.1)).Nodup ∧ (DATATYPES.map (·.1)).Nodup := by decide +kernel

/-- every message's encoder writes the type indicator its dispatcher entry tests for -/
theorem encoders_write_their_indicator :
    HelloMessage.writerItems.head? = some ("tag", "0 0", "") ∧
    GetBlocksMessage.writerItems.head? = some ("tag", "0 1", "") ∧
    InventoryMessage.writerItems.head? = some ("tag", "0 2", "") ∧
    GetDataMessage.writerItems.head? = some ("tag", "0 3", "") ∧
    DataMessage.writerItems.head? = some ("tag", "0 4", "") ∧
    GetPeersMessage.writerItems.head? = some ("tag", "0 5", "") ∧
    PeersMessage.writerItems.head? = some ("tag", "0 6", "") := ⟨rfl, rfl, rfl, rfl, rfl, rfl, rfl⟩

theorem encoders_write_what_decoders_read :
    agree MessageHeader.writerItems MessageHeader.readerItems = true ∧
    agree SupportedVersion.writerItems SupportedVersion.readerItems = true ∧
    agree HelloMessage.writerItems.tail HelloMessage.readerItems = true ∧
    agree GetBlocksMessage.writerItems.tail GetBlocksMessage.readerItems = true ∧
    agree InventoryItem.writerItems InventoryItem.readerItems = true ∧
    agree InventoryMessage.writerItems.tail InventoryMessage.readerItems = true ∧
    agree GetDataMessage.writerItems.tail GetDataMessage.readerItems = true ∧
    agree DataMessage.writerItems.tail DataMessage.readerItems = true ∧
    agree GetPeersMessage.writerItems.tail GetPeersMessage.readerItems = true ∧
    agree Peer.writerItems Peer.readerItems = true ∧
    agree PeersMessage.writerItems.tail PeersMessage.readerItems = true := by decide +kernel

/-- every decoder passes each field read to the constructor parameter of the same name, and every parameter is a field read -/
theorem decoders_construct_by_name :
    MessageHeader.ctor = MessageHeader.initParams ∧ MessageHeader.ctor = fieldsOf MessageHeader.readerItems ∧
    SupportedVersion.ctor = SupportedVersion.initParams ∧ SupportedVersion.ctor = fieldsOf SupportedVersion.readerItems ∧
    HelloMessage.ctor = HelloMessage.initParams ∧ HelloMessage.ctor.Perm (fieldsOf HelloMessage.readerItems) ∧
    GetBlocksMessage.ctor = GetBlocksMessage.initParams ∧ GetBlocksMessage.ctor = fieldsOf GetBlocksMessage.readerItems ∧
    InventoryItem.ctor = InventoryItem.initParams ∧ InventoryItem.ctor = fieldsOf InventoryItem.readerItems ∧
    InventoryMessage.ctor = InventoryMessage.initParams ∧ InventoryMessage.ctor = fieldsOf InventoryMessage.readerItems ∧
    GetDataMessage.ctor = GetDataMessage.initParams ∧ GetDataMessage.ctor = fieldsOf GetDataMessage.readerItems ∧
    DataMessage.ctor = DataMessage.initParams ∧ DataMessage.ctor = fieldsOf DataMessage.readerItems ∧
    GetPeersMessage.ctor = GetPeersMessage.initParams ∧ GetPeersMessage.ctor = fieldsOf GetPeersMessage.readerItems ∧
    Peer.ctor = Peer.initParams ∧ Peer.ctor = fieldsOf Peer.readerItems ∧
    PeersMessage.ctor = PeersMessage.initParams ∧ PeersMessage.ctor = fieldsOf PeersMessage.readerItems := by decide +kernel

/-- the model's codecs are the regenerated decoders -/
theorem model_msg_codecs_are_translated :
    MsgHeader.codec = iso (fun p => ⟨p.2.1, p.2.2.1, p.2.2.2.1, p.2.2.2.2.1⟩)
      (fun h => ((), h.timestamp, h.id, h.inResponseTo, h.context, ())) MessageHeader.reader ∧
    Hello.codec = iso (fun p => ⟨p.2.1, p.2.2.1, p.2.2.2.1, p.2.2.2.2.1, p.2.2.2.2.2.1, p.2.2.2.2.2.2.1, p.2.2.2.2.2.2.2.1⟩)
      (fun h => ((), h.yourIp, h.yourPort, h.myIp, h.myPort, h.nonce, h.userAgent, h.versions, ()))
      (HelloMessage.reader SupportedVersion.reader) ∧
    InvItem.codec = iso (fun p => ⟨p.1, p.2⟩) (fun i => (i.dataType, i.hash)) InventoryItem.reader ∧
    PeerAddr.codec = iso (fun p => ⟨p.1, p.2.1, p.2.2⟩) (fun a => (a.lastSeen, a.ip, a.port)) Peer.reader ∧
    getBlocksCodec = iso (fun p => p.2) (fun x => ((), x)) GetBlocksMessage.reader ∧
    inventoryCodec = iso (fun p => p.2) (fun x => ((), x)) (InventoryMessage.reader InvItem.codec) ∧
    getDataCodec = iso (fun p => p.2) (fun x => ((), x)) GetDataMessage.reader ∧
    peersCodec = iso (fun p => p.2) (fun x => ((), x)) (PeersMessage.reader PeerAddr.codec) := by
  refine ⟨rfl, rfl, rfl, rfl, rfl, rfl, rfl, rfl⟩

theorem fixed_two_dec (a b : UInt8) (r : Bytes) : (fixed 2).dec (a :: b :: r) = some ([a, b], r) :=
  fixed_dec.mpr ⟨rfl, rfl⟩

theorem indicator_ne {a b n : UInt8} (h : a ≠ 0 ∨ n < b) {k : UInt8} (hk : k ≤ n) : ¬ [a, b] = [0, k] := by
  intro he
  simp only [List.cons.injEq, and_true] at he
  rcases h with h | h
  · exact h he.1
  · rw [he.2] at h; exact absurd hk (UInt8.not_le.mpr h)

/-- the payload of a data message: the two-byte data type selects the class whose (translated, `GenTie.Layout`) decoder runs;
an unknown type raises (`DATATYPES[data_type]`) -/
theorem data_item_dec_is_translated (bs : Bytes) :
    DataItem.dec bs =
      match (fixed 2).dec bs with
      | none => none
      | some (t, r) =>
        if t = [0, 0] then (BlockC.codec.dec r).map fun (x, r') => (.block x, r')
        else if t = [0, 1] then (Header.codec.dec r).map fun (x, r') => (.header x, r')
        else if t = [0, 2] then (Tx.codec.dec r).map fun (x, r') => (.tx x, r')
        else none := by
  unfold DataItem.dec
  match bs with
  | [] => rfl
  | [_] => rfl
  | a :: b :: r =>
    rw [fixed_two_dec]
    simp only [List.cons.injEq, and_true]

/-- `Message.stream_deserialize` of the model is the regenerated dispatch over the regenerated decoders -/
theorem msg_dec_is_translated (bs : Bytes) :
    Msg.dec bs =
      match (fixed 2).dec bs with
      | none => none
      | some (t, r) =>
        if t = [0, 0] then (Hello.codec.dec r).map fun (x, r') => (.hello x, r')
        else if t = [0, 1] then (GetBlocksMessage.reader.dec r).map fun (x, r') => (.getBlocks x.2.1 x.2.2, r')
        else if t = [0, 2] then ((InventoryMessage.reader InvItem.codec).dec r).map fun (x, r') => (.inventory x.2, r')
        else if t = [0, 3] then (GetDataMessage.reader.dec r).map fun (x, r') => (.getData x.2.1 x.2.2, r')
        else if t = [0, 4] then
          (match DataMessage.reader.dec r with
           | none => none
           | some (_, r₁) => (DataItem.dec r₁).map fun (x, r') => (.data x, r'))
        else if t = [0, 5] then (GetPeersMessage.reader.dec r).map fun (_, r') => (.getPeers, r')
        else if t = [0, 6] then ((PeersMessage.reader PeerAddr.codec).dec r).map fun (x, r') => (.peers x.2, r')
        else none := by
  unfold Msg.dec
  match bs with
  | [] => rfl
  | [_] => rfl
  | a :: b :: r =>
    rw [fixed_two_dec]
    simp only [List.cons.injEq, and_true]
    by_cases ha : a = 0
    · subst ha
      simp only [ne_eq, not_true_eq_false, if_false, true_and, getBlocksCodec, inventoryCodec, getDataCodec,
        peersCodec, iso_dec, Option.map_map]
      -- the version byte that must be 0, as the model spells it and as `const [0]` reads it
      have hconst : ∀ {γ : Type} (k : Bytes → Option γ),
          (match r with | v :: r₁ => if v = 0 then k r₁ else none | [] => none) =
            match (const [0]).dec r with | none => none | some (_, r₁) => k r₁ := by
        intro γ k
        cases r with
        | nil => rfl
        | cons v r₁ => by_cases hv : v = 0 <;> simp [const, hv]
      -- both sides now test `b` against 0 … 6 in the same order: compare them branch by branch
      iterate 4 refine ite_congr rfl (fun _ => rfl) fun _ => ?_
      refine ite_congr rfl (fun _ => hconst _) fun _ => ?_
      refine ite_congr rfl (fun _ => (hconst _).trans ?_) fun _ => ite_congr rfl (fun _ => rfl) fun _ => rfl
      rw [GetPeersMessage.reader]
      cases (const [0]).dec r <;> rfl
    · simp only [ha, ne_eq, not_false_eq_true, if_true, false_and, if_false]

/-- `stream_serialize` of the model: the class's type indicator, then what the regenerated decoder of the class reads -/
theorem msg_enc_is_translated (m : Msg) :
    m.enc =
      match m with
      | .hello h => [0, 0] ++ Hello.codec.enc h
      | .getBlocks s t => [0, 1] ++ GetBlocksMessage.reader.enc ((), s, t)
      | .inventory l => [0, 2] ++ (InventoryMessage.reader InvItem.codec).enc ((), l)
      | .getData t h => [0, 3] ++ GetDataMessage.reader.enc ((), t, h)
      | .data d => [0, 4] ++ DataMessage.reader.enc () ++ d.enc
      | .getPeers => [0, 5] ++ GetPeersMessage.reader.enc ()
      | .peers l => [0, 6] ++ (PeersMessage.reader PeerAddr.codec).enc ((), l) := by
  cases m <;> rfl

/-- the type indicators in use are exactly `00 00 … 00 06` (messages) and `00 00 … 00 02` (data) -/
theorem indicators_in_use :
    Message.dispatch.map (·.1) = (List.range 7).map (fun k => [0, k]) ∧
    DATATYPES.map (·.1) = (List.range 3).map (fun k => [0, k]) := by decide +kernel

/-- C20: a message whose type indicator is none of those the dispatcher tests for is refused, whatever follows -/
theorem unknown_message_type_refused (a b : UInt8) (r : Bytes) (h : a ≠ 0 ∨ 6 < b) : Msg.dec (a :: b :: r) = none := by
  rw [msg_dec_is_translated, fixed_two_dec]
  simp only [indicator_ne h (k := 0) (by decide), indicator_ne h (k := 1) (by decide), indicator_ne h (k := 2) (by decide),
    indicator_ne h (k := 3) (by decide), indicator_ne h (k := 4) (by decide), indicator_ne h (k := 5) (by decide),
    indicator_ne h (k := 6) (by decide), ↓reduceIte]

/-- C20: a data message whose data type is not in `DATATYPES` is refused, whatever follows -/
theorem unknown_data_type_refused (a b : UInt8) (r : Bytes) (h : a ≠ 0 ∨ 2 < b) : DataItem.dec (a :: b :: r) = none := by
  rw [data_item_dec_is_translated, fixed_two_dec]
  simp only [indicator_ne h (k := 0) (by decide), indicator_ne h (k := 1) (by decide), indicator_ne h (k := 2) (by decide),
    ↓reduceIte]

/-- … and the whole frame is then undecodable -/
theorem unknown_type_frame_undecodable (hd : MsgHeader) (a b : UInt8) (r : Bytes) (hwf : hd.WF) (h : a ≠ 0 ∨ 6 < b) :
    decodeFrame (MsgHeader.codec.enc hd ++ a :: b :: r) = none := by
  unfold decodeFrame
  rw [C07.message_header_roundtrip hd (a :: b :: r) hwf]
  simp only [unknown_message_type_refused a b r h]

end GenTie.Msg
