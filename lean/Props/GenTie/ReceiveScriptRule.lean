import Model.Wallet
import Gen.ReceiveScriptEffects
import Gen.SaveWalletEffects
import Props.GenTie.WalletSaveRule

/-!
GenTie.ReceiveScriptRule — `skepticoin-receive` (scripts/receive.py, `main`), translated from the current source as an effect
list: the wallet is opened, a key is handed out, the wallet is **saved, and only then** is the address shown to the user —
nothing is shown that is not on disk. Together with `GenTie.WalletSaveRule` (the save is open-truncate / write / close / rename)
and `C15.save_atomic`: whenever the process dies, an address the user has seen belongs to a key that the wallet file records as
handed out, so the next run cannot hand it out again while unused keys remain.
-/

namespace GenTie
open Model

theorem receive_script_effects_eq :
    Gen.receive_script_effects = (["open_wallet", "hand_out", "save", "show"], false) := by
  rfl

/-- the address is shown after the save, which comes after the hand-out; showing is the last thing the script does -/
theorem shown_only_after_saved :
    Gen.receive_script_effects.1.idxOf "hand_out" < Gen.receive_script_effects.1.idxOf "save" ∧
    Gen.receive_script_effects.1.idxOf "save" < Gen.receive_script_effects.1.idxOf "show" ∧
    Gen.receive_script_effects.1.getLast? = some "show" ∧
    Gen.receive_script_effects.1.count "show" = 1 := by
  rw [receive_script_effects_eq]; decide

/-- the script's run as file-system operations followed by the event "shown" (`none`): a crash is a prefix of this list -/
def scriptOps (chunks : List Bytes) : List (Option FsOp) :=
  Gen.receive_script_effects.1.flatMap fun
    | "save" => (Gen.save_wallet_effects.1.flatMap (fsOpsOf' chunks)).map some
    | "show" => [none]
    | _ => []
where
  -- `fsOpsOf "wallet.json"` of WalletSaveRule, written out
  fsOpsOf' (chunks : List Bytes) : String → List FsOp
    | "open_truncate_new" => [.openTrunc "wallet.json.new"]
    | "write_new" => chunks.map (.append "wallet.json.new")
    | "rename_new_to_final" => [.rename "wallet.json.new" "wallet.json"]
    | _ => []

/-- in every prefix of the run (a crash at any point) that contains the showing of the address, the whole save — up to and
including the rename over the wallet file — has been performed before it -/
theorem crash_after_show_has_saved (chunks : List Bytes) (k : Nat)
    (h : none ∈ (scriptOps chunks).take k) :
    (saveOps "wallet.json" chunks).map some = ((scriptOps chunks).take k).filter (·.isSome) := by
  have hs : scriptOps chunks = (saveOps "wallet.json" chunks).map some ++ [none] := by
    simp [scriptOps, scriptOps.fsOpsOf', receive_script_effects_eq, save_wallet_effects_eq, saveOps, List.flatMap]
  rw [hs] at h ⊢
  generalize saveOps "wallet.json" chunks = l at h ⊢
  -- a prefix that reaches the `none` at the end is the whole run
  have hk : ¬ k ≤ (l.map some).length := fun hk => by
    rw [List.take_append_of_le_length hk] at h
    obtain ⟨x, _, hx⟩ := List.mem_map.1 (List.mem_of_mem_take h)
    cases hx
  have hall : ∀ a ∈ l.map some, a.isSome = true := fun a ha => by
    obtain ⟨x, _, rfl⟩ := List.mem_map.1 ha
    rfl
  rw [List.take_of_length_le (by rw [List.length_append, List.length_singleton]; omega), List.filter_append,
    List.filter_eq_self.2 hall]
  exact (List.append_nil _).symm

end GenTie
