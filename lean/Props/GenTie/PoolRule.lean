import Model.Node
import Gen.SetCoinstateEffects
import Gen.AddToPoolEffects

/-!
GenTie.PoolRule — `ChainManager.set_coinstate` and `ChainManager.add_transaction_to_pool`, translated from the current source as
effect trees, are the model's `setCoinstate` and `addTxToPool`:

* `set_coinstate`: the new state is installed, the pool is cleaned against it — **always** — and the last validated state is
  updated exactly when `validated`;
* `add_transaction_to_pool`: the three validations run in order **before** anything is appended; a `ValidateTransactionError`
  from any of them means "not admitted" (pool untouched), any other exception escapes (pool untouched), and only when all three
  return is the transaction appended.
-/

namespace GenTie
open Model

def runMgrEffect (C : Crypto) (cs : CoinState) (m : ChainMgr) : String → ChainMgr
  | "set_state" => { m with coinstate := cs }
  | "cleanup_pool" => { m with pool := cleanupPool C m.coinstate m.pool }     -- against the state just installed
  | "mark_valid" => { m with lastValid := some m.coinstate }
  | _ => m

theorem model_set_coinstate_is_translated_effects (C : Crypto) (m : ChainMgr) (cs : CoinState) (validated : Bool) :
    setCoinstate C m cs validated = (Gen.set_coinstate_effects validated).1.foldl (runMgrEffect C cs) m ∧
    (Gen.set_coinstate_effects validated).2 = false := by
  cases validated <;> simp [Gen.set_coinstate_effects, setCoinstate, runMgrEffect]

/-- how the code sees the result of one validation call: returns, raises `ValidateTransactionError`, raises something else -/
def outcome (x : Except Err Unit) : Gen.Outcome :=
  match x with
  | .ok _ => .ok
  | .error (.validation _) => .refused
  | .error _ => .escapes

def runPoolEffect (t : CTx) (m : ChainMgr) : String → ChainMgr
  | "pool_append" => { m with pool := m.pool ++ [t] }
  | _ => m                                   -- debug_save, return_true, return_false: nothing in the manager changes

-- `hhead` says why the atom `has_head` is `true` here; the proof does not need it
set_option linter.unusedVariables false in
/-- the refinement: resulting manager, admitted flag and escape flag -/
theorem model_add_to_pool_is_translated_effects (C : Crypto) (m : ChainMgr) (t : CTx)
    (hhead : (headUtxo m.coinstate).isSome) :
    let eff := Gen.add_to_pool_effects (outcome (validateTxByItself Gen.params t))
      (outcome (validateTxAtHead C m.coinstate t))
      (outcome (require (decide (allRefs (m.pool ++ [t])).Nodup) "Duplicate output_reference.")) true
    (match addTxToPool C Gen.params m t with
      | .ok (m', admitted) =>
          eff.2 = false ∧ m' = eff.1.foldl (runPoolEffect t) m ∧
          (admitted = true ↔ "return_true" ∈ eff.1) ∧ (admitted = false ↔ "return_false" ∈ eff.1)
      | .error _ => eff.2 = true) := by
  intro eff
  unfold addTxToPool
  simp only [eff, Gen.add_to_pool_effects]
  cases validateTxByItself Gen.params t with
  | error e =>
    cases e <;> simp [outcome, bind, Except.bind, runPoolEffect]
  | ok _ =>
    simp only [outcome, bind, Except.bind]
    cases validateTxAtHead C m.coinstate t with
    | error e => cases e <;> simp [runPoolEffect]
    | ok _ =>
      by_cases hn : (allRefs (m.pool ++ [t])).Nodup <;> simp [require, hn, runPoolEffect]

end GenTie
