import Props.GenTie.Order
import Gen.HandleBlockEffects

/-! What may happen before what in `handle_block_received` as translated, for every value of the atoms its effect tree reads
(C09); no model in between. -/

namespace GenTie

/-- C09: whatever the block and the state, the block handler relays (`broadcast`) only a block that it has applied; for an
unsolicited block the relay comes after the full validation succeeded, the validated state was installed and the store was
flushed; a block is buffered for the store only after it has been applied; when the full validation fails the buffer is cleared,
nothing is installed as validated, nothing is flushed and nothing is relayed -/
theorem handle_block_orders (known parent_known by_itself_ok apply_ok unsolicited : Bool) (height : Nat)
    (in_state_ok has_last_valid is_head : Bool) :
    let e := (Gen.handle_block_effects known parent_known by_itself_ok apply_ok unsolicited height in_state_ok has_last_valid
      is_head).1
    ("broadcast" ∈ e → unsolicited = true ∧ precededBy e "broadcast" ["apply", "buffer", "adopt_validated", "flush"] = true) ∧
    ("buffer" ∈ e → precededBy e "buffer" ["apply"] = true ∧ apply_ok = true) ∧
    ("flush" ∈ e → precededBy e "flush" ["apply", "buffer", "adopt_validated"] = true ∧ in_state_ok = true) ∧
    ("clear_buffer" ∈ e → "adopt_validated" ∉ e ∧ "flush" ∉ e ∧ "broadcast" ∉ e ∧ in_state_ok = false) ∧
    ("adopt_unvalidated" ∈ e → unsolicited = false ∧ "flush" ∉ e) := by
  intro e
  simp only [e]
  -- one case per path of the translated tree: the tests passed on the way fix the atoms, the list is concrete
  fun_cases Gen.handle_block_effects known parent_known by_itself_ok apply_ok unsolicited height in_state_ok has_last_valid
    is_head
  all_goals simp_all +zetaDelta
  all_goals decide

end GenTie
