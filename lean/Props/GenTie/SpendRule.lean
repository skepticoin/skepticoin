import Proofs.Validation
import Proofs.Scan
import Gen.SpendInStateOk

/-!
GenTie.SpendRule — the decision of `validate_non_coinbase_transaction_in_coinstate`, translated from the current source over
declared atoms, is the model's. The per-input atoms are: the reference is missing from the unspent set; the signature check
(`validate_signature_for_spend` returns); the value of the spent output. The translated function is a structural recursion
over the list of these triples (the code's `for input in transaction.inputs`), followed by the overspending test.

It says: **every** input exists and **every** input's signature check passes, and the outputs sum to at most the inputs'
total.
-/

namespace GenTie
open Model

theorem spend_loop_eq (ins : List (Bool × Bool × Nat)) (total : Nat) :
    Gen.spend_in_state_ok.loop ins total =
      if ins.all (fun r => !r.1 && r.2.1) then some (total + (ins.map (·.2.2)).sum) else none :=
  scan_sum_eq (fun _ => rfl) (fun ⟨missing, sig, value⟩ rest t => by
    rw [Gen.spend_in_state_ok.loop]; cases missing <;> cases sig <;> rfl) ins total

theorem spend_in_state_ok_eq (ins : List (Bool × Bool × Nat)) (outs : List Nat) :
    Gen.spend_in_state_ok ins outs =
      (ins.all (fun r => !r.1 && r.2.1) && decide (outs.sum ≤ (ins.map (·.2.2)).sum)) := by
  have hl := spend_loop_eq ins 0
  generalize ins.all _ = a at hl ⊢
  fun_cases Gen.spend_in_state_ok ins outs <;> simp_all +zetaDelta <;> omega

theorem refused_of_mem (ins : List (Bool × Bool × Nat)) (outs : List Nat) (r : Bool × Bool × Nat)
    (hr : r ∈ ins) (hbad : (!r.1 && r.2.1) = false) : Gen.spend_in_state_ok ins outs = false := by
  have : ins.all (fun r => !r.1 && r.2.1) = false := List.all_eq_false.mpr ⟨r, hr, by simp [hbad]⟩
  rw [spend_in_state_ok_eq, this, Bool.false_and]

/-- in particular a failing signature check on **any** input refuses the transaction, whatever its position -/
theorem any_bad_signature_refused (ins : List (Bool × Bool × Nat)) (outs : List Nat) (r : Bool × Bool × Nat)
    (hr : r ∈ ins) (hbad : r.2.1 = false) : Gen.spend_in_state_ok ins outs = false :=
  refused_of_mem ins outs r hr (by rw [hbad, Bool.and_false])

/-- and a missing output on any input -/
theorem any_missing_output_refused (ins : List (Bool × Bool × Nat)) (outs : List Nat) (r : Bool × Bool × Nat)
    (hr : r ∈ ins) (hbad : r.1 = true) : Gen.spend_in_state_ok ins outs = false :=
  refused_of_mem ins outs r hr (by rw [hbad]; rfl)

/-- the atoms of one input against the unspent set `u` -/
def inputAtoms (C : Crypto) (u : Utxo) (t : Tx) (i : Input) : Bool × Bool × Nat :=
  match u.get? i.ref with
  | none => (true, false, 0)
  | some o => (false, (match validateSignature C i o t with | .ok _ => true | .error _ => false), o.value)

theorem model_loop_as_translated (C : Crypto) (u : Utxo) (t : Tx) : ∀ (ins : List Input) (total : Nat),
    Gen.spend_in_state_ok.loop (ins.map (inputAtoms C u t)) total =
      (match validateInputs C u t ins with | .ok r => some (total + r) | .error _ => none) := by
  intro ins
  induction ins with
  | nil => intro total; rfl
  | cons i rest ih =>
    intro total
    rw [List.map_cons, validateInputs, inputAtoms]
    cases u.get? i.ref with
    | none => rfl
    | some o =>
      dsimp only
      cases validateSignature C i o t with
      | error e => rfl
      | ok v =>
        rw [Gen.spend_in_state_ok.loop, ok_bind]
        simp only [Bool.false_eq_true, ↓reduceIte, Bool.not_true, ih]
        cases validateInputs C u t rest with
        | error e => rfl
        | ok r => simp only [ok_bind, pure, Except.pure, Nat.add_assoc]

theorem model_spend_as_translated (C : Crypto) (u : Utxo) (t : CTx) :
    validateTxInState C u t = .ok () ↔
      Gen.spend_in_state_ok (t.tx.inputs.map (inputAtoms C u t.tx)) (t.tx.outputs.map (·.value)) = true := by
  -- the translated loop over the atoms is the model's `validateInputs`; what is left is the overspending test
  rw [eq_ok_iff_isOk, validateTxInState]
  unfold Gen.spend_in_state_ok
  simp only [model_loop_as_translated, Nat.zero_add]
  cases validateInputs C u t.tx t.tx.inputs with
  | error e => simp [error_bind, isOk_error]
  | ok r =>
    rw [ok_bind, isOk_require, decide_eq_true_eq]
    simp [outputsValue]

end GenTie
