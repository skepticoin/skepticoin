import Proofs.Validation
import Proofs.Scan
import Gen.BlockByItselfOk

/-!
GenTie.BlockByItselfRule — the decision of `validate_block_by_itself`, translated from the current source over declared atoms,
is the model's: header rules, at least one transaction, size limit, reward transaction well-formed and carrying the block's
height, **every** other transaction well-formed, no duplicate transactions, no output referenced twice, and the header's
commitment equal to the commitment computed from the body.
-/

namespace GenTie
open Model

theorem bbi_loop_eq (others : List Bool) :
    Gen.block_by_itself_ok.loop others = if others.all id then some () else none :=
  scan_eq rfl (fun x rest => by rw [Gen.block_by_itself_ok.loop]; cases x <;> rfl) others

theorem block_by_itself_ok_eq (headerOk : Bool) (n size : Nat) (cbOk : Bool) (cbHeight height : Nat) (others : List Bool)
    (noDupTxs noDupRefs : Bool) (merkle computed : Bytes) :
    Gen.block_by_itself_ok headerOk n size cbOk cbHeight height others noDupTxs noDupRefs merkle computed =
      (headerOk && decide (n ≠ 0) && decide (size ≤ Gen.MAX_BLOCK_SIZE) && cbOk && decide (cbHeight = height) &&
        others.all id && noDupTxs && noDupRefs && decide (merkle = computed)) := by
  have hl := bbi_loop_eq others
  generalize others.all id = a at hl ⊢
  -- one case per `raise` of the function and one for its normal end: the test that led there settles both sides
  fun_cases Gen.block_by_itself_ok headerOk n size cbOk cbHeight height others noDupTxs noDupRefs merkle computed
  all_goals simp_all
  all_goals omega

-- `Except.isOk` (`okB_eq` in BlockRule); a tie is built, or skipped, on its own and so declares its own copy
def okB' {α : Type} (x : Except Err α) : Bool := match x with | .ok _ => true | .error _ => false

theorem okB'_eq {α : Type} (x : Except Err α) : okB' x = x.isOk := by cases x <;> rfl

theorem model_block_by_itself_as_translated (C : Crypto) (b : Block) (now : Int) (cb : CTx) (rest : List CTx) (r : Bytes)
    (htx : b.txs = cb :: rest) (hroot : calcMerkleRoot C b.txs = some r) :
    validateBlockByItself C Gen.params b now = .ok () ↔
      Gen.block_by_itself_ok (okB' (validateHeaderByItself C Gen.params b.header now)) b.txs.length (encBlock b).length
        (okB' (validateCoinbaseByItself Gen.params cb))
        (match validateCoinbaseByItself Gen.params cb with | .ok h => h | .error _ => 0) b.height
        (rest.map fun t => okB' (validateTxByItself Gen.params t)) (noDuplicateTxs C rest)
        (decide (allRefs rest).Nodup) b.header.summary.merkleRoot r = true := by
  have hmb : Gen.params.maxBlockSize = Gen.MAX_BLOCK_SIZE := rfl
  rw [block_by_itself_ok_eq, eq_ok_iff_isOk, validateBlockByItself, hroot, htx, hmb]
  dsimp only
  cases validateCoinbaseByItself Gen.params cb <;>
    simp [ok_bind, error_bind, isOk_bind_unit, isOk_require, isOk_forAll, okB'_eq, isOk_ok, isOk_error, List.all_map,
      Function.comp_def, Bool.and_assoc, eq_comm (a := r)]

end GenTie
