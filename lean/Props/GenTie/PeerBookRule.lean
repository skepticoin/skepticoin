import Model.PeerBook
import Proofs.Map
import Gen.PeerConnectedEffects
import Gen.PeerDisconnectedEffects
import Gen.NetStepDial
import Gen.WritePeersEffects

/-!
GenTie.PeerBookRule — `NetworkManager.handle_peer_connected` / `handle_peer_disconnected`, translated from the current source as
effect trees, are the model's `Book.peerConnected` / `Book.peerDisconnected`:

* connected: an existing connection under the same key is dropped first; then the new one is recorded, and the key is removed
  from the waiting map **whenever it is there at that moment** (in particular after the drop of a duplicate put it there);
* disconnected: the key leaves the connected map; an outgoing peer goes to the waiting map, its failure count incremented exactly
  when it never greeted; an incoming peer is forgotten.
-/

namespace GenTie
open Model

def runConnectEffect (k : PeerKey) (p : ConnPeer) (b : Book) : String → Book
  | "drop_existing" => (match b.connected.get? k with | some old => b.disconnect k old.serial | none => b)
  | "record_connected" => { b with connected := b.connected.set k p }
  | "forget_waiting" => { b with disconnected := b.disconnected.erase k }
  | _ => b                                  -- sanity_check: raises iff the book is insane (`never_insane` in Props/C19)

/-- the refinement for a new connection; the atom `waiting` is read when the code reads it: after a duplicate was dropped -/
theorem model_peer_connected_is_translated_effects (b : Book) (k : PeerKey) (p : ConnPeer) :
    let b₁ := match b.connected.get? k with | some old => b.disconnect k old.serial | none => b
    let eff := Gen.peer_connected_effects (b.connected.contains k) (b₁.disconnected.contains k)
    Book.peerConnected b k p = eff.1.foldl (runConnectEffect k p) b ∧ eff.2 = false := by
  intro b₁ eff
  have he : b₁.disconnected.contains k = false → b₁.disconnected.erase k = b₁.disconnected :=
    fun h => Map.erase_of_get?_none _ _ ((Map.contains_eq_false_iff _ _).1 h)
  simp only [eff]
  -- one case per path of the translated tree and per answer of the look-up under `k`
  fun_cases Gen.peer_connected_effects (b.connected.contains k) (b₁.disconnected.contains k) <;>
    cases hk : b.connected.get? k <;>
    simp_all +zetaDelta [Book.peerConnected, runConnectEffect, Map.contains]

def runDisconnectEffect (k : PeerKey) (p : ConnPeer) (st : Book × Nat) : String → Book × Nat
  | "forget_connected" => ({ st.1 with connected := st.1.connected.erase k }, st.2)
  | "count_failure" => (st.1, st.2 + 1)
  | "record_waiting" => ({ st.1 with disconnected := st.1.disconnected.set k ⟨p.lastAttempt, st.2⟩ }, st.2)
  | _ => st

/-- the refinement for a lost connection (the second component carries the peer object's failure count) -/
theorem model_peer_disconnected_is_translated_effects (b : Book) (k : PeerKey) (p : ConnPeer) :
    let eff := Gen.peer_disconnected_effects k.outgoing p.helloReceived
    Book.peerDisconnected b k p = (eff.1.foldl (runDisconnectEffect k p) (b, p.banScore)).1 ∧ eff.2 = false := by
  intro eff
  unfold Book.peerDisconnected
  simp only [eff, Gen.peer_disconnected_effects]
  cases k.outgoing <;> cases p.helloReceived <;> simp [runDisconnectEffect]

/-! ### the dial loop of `NetworkManager.step` -/

theorem net_step_dial_eq (outgoing is_mine time_ok : Bool) :
    Gen.net_step_dial outgoing is_mine time_ok =
      if outgoing && !is_mine && time_ok then ["set_last_attempt", "start_outgoing"] else [] := by
  cases outgoing <;> cases is_mine <;> cases time_ok <;> rfl

/-- one iteration of the model's loop over the snapshot is the translated body: nothing for a peer that is not dialled;
otherwise the attempt time is recorded first and the connection started with the updated record -/
theorem model_step_peer_as_translated (P : Params) (now : Int) (b : Book) (k : PeerKey) (x d : DiscPeer)
    (rest : List (PeerKey × DiscPeer)) (hd : b.disconnected.get? k = some d) :
    Book.stepPeers P now b ((k, x) :: rest) =
      (if Gen.net_step_dial k.outgoing (b.myAddresses.contains (k.host, k.port))
            (isTimeToConnect P d.banScore d.lastAttempt now) = ["set_last_attempt", "start_outgoing"] then
        let d' : DiscPeer := { d with lastAttempt := some now }
        Book.stepPeers P now
          (({ b with disconnected := b.disconnected.set k d',
                     attempts := (k, now, d.banScore) :: b.attempts } : Book).startOutgoing k d') rest
      else Book.stepPeers P now b rest) := by
  rw [net_step_dial_eq]
  rw [Book.stepPeers]
  simp only [hd]
  cases k.outgoing && !(b.myAddresses.contains (k.host, k.port)) && isTimeToConnect P d.banScore d.lastAttempt now <;>
    simp

/-- `write_peers`, from the opening of the temporary file: the list is written into the temporary file, the file is closed,
and only then renamed over `peers.json` (the order on which `C19.save_atomic` rests) -/
theorem write_peers_rename_after_close :
    Gen.write_peers_effects = (["open_new", "dump", "close_new", "rename"], false) := by
  rfl

end GenTie
