import Model.Fetch
import Gen.ShouldFetch
import Gen.InventoryBatchHandled
import Gen.IbdCandidateOk
import Gen.StillFetching
import Gen.ChainStepEffects

/-!
GenTie.FetchRule — `ChainManager.step` (when a node asks a peer for blocks on its own initiative), translated from the
current source, is the model's `chainStep`:

* `should_actively_fetch_blocks`, `inventory_batch_handled`, the filter of `ibd_candidates` and the filter that keeps an
  entry of `actively_fetching_blocks_from_peers` are translated as Boolean functions of their atoms and proved equal to the
  model's `shouldFetch`, `batchHandled`, `candidateOk`, `stillFetching` at the regenerated constants;
* the statement structure of `step` is translated as an effect tree; folding its effects over (node, scheduler state) is
  `chainStep` (refinement), an exception escapes in one exactly when it does in the other.
-/

namespace GenTie
open Model

/-- the scheduler's constants as regenerated from networking/params.py -/
def fetchParams : FetchParams :=
  { maxIbdPeers := Gen.MAX_IBD_PEERS, ibdPeerTimeout := Gen.IBD_PEER_TIMEOUT,
    switchToActive := Gen.SWITCH_TO_ACTIVE_MODE_TIMEOUT, emptyBackoff := Gen.EMPTY_INVENTORY_BACKOFF }

theorem fetch_params :
    fetchParams.maxIbdPeers = 1 ∧ fetchParams.ibdPeerTimeout = 60 ∧ fetchParams.switchToActive = 300 ∧
    fetchParams.emptyBackoff = 60 := by decide

/-! Boolean functions of integer comparisons are equal when they agree as propositions, which `omega` decides however the
operands of `and` / `or` are ordered and however a comparison is spelled (`simp <;> omega`: nothing is left for `omega` when
the source is spelled as the model is). -/

theorem should_fetch_eq (now headTs startedAt : Int) :
    Gen.should_fetch now headTs startedAt = shouldFetch fetchParams headTs startedAt now := by
  unfold Gen.should_fetch shouldFetch fetchParams
  refine Bool.eq_iff_iff.mpr ?_
  simp [Int.fmod_eq_emod_of_nonneg now (by decide : (0 : Int) ≤ 60)] <;> omega

theorem inventory_batch_handled_eq (p : PeerSt) :
    Gen.inventory_batch_handled p.waitingForInventory p.pendingInventory.isEmpty = batchHandled p := by
  unfold Gen.inventory_batch_handled batchHandled
  cases p.waitingForInventory <;> cases p.pendingInventory.isEmpty <;> rfl

theorem ibd_candidate_ok_eq (now lastEmpty : Int) :
    Gen.ibd_candidate_ok now lastEmpty = candidateOk fetchParams now lastEmpty := by
  unfold Gen.ibd_candidate_ok candidateOk fetchParams
  refine Bool.eq_iff_iff.mpr ?_
  simp <;> omega

theorem still_fetching_eq (now t : Int) (handled : Bool) :
    Gen.still_fetching now t handled = stillFetching now t handled := by
  unfold Gen.still_fetching stillFetching
  refine Bool.eq_iff_iff.mpr ?_
  cases handled <;> simp <;> omega

/-- the model's candidate list is the selection by the translated filter from the active peers, in connection order -/
theorem candidates_as_translated (n : Node) (f : FetchSt) (now : Int) :
    candidates fetchParams n f now =
      (List.range n.peers.length).filter fun c =>
        match n.peers[c]? with
        | some p => p.active && Gen.ibd_candidate_ok now (f.lastEmpty c)
        | none => false := by
  simp only [ibd_candidate_ok_eq]
  rfl

/-- the model's pruned list is the selection by the translated filter, with the translated `inventory_batch_handled` -/
theorem prune_as_translated (n : Node) (f : FetchSt) (now : Int) :
    pruneFetching n f now =
      f.fetching.filter fun e =>
        Gen.still_fetching now e.1
          (match n.peers[e.2]? with
            | some p => Gen.inventory_batch_handled p.waitingForInventory p.pendingInventory.isEmpty
            | none => true) := by
  simp only [still_fetching_eq, inventory_batch_handled_eq]
  rfl

/-- what each effect of `step` does to (node, scheduler state); `loc`, `c` are the values the statements computed -/
def runStepEffect (n₀ : Node) (f₀ : FetchSt) (now : Int) (loc : List Bytes) (c : Nat) :
    Node × FetchSt → String → Node × FetchSt
  | (n, f), "select_candidates" => (n, f)                 -- a local list
  | (n, f), "prune" => (n, { f with fetching := pruneFetching n₀ f₀ now })
  | (n, f), "locator" => (n, f)                           -- builds the message
  | (n, f), "choose" => (n, f)                            -- a local
  | (n, f), "set_waiting" => (n.updatePeer c fun p => { p with waitingForInventory := true }, f)
  | (n, f), "append_fetching" => (n, { f with fetching := f.fetching ++ [(now + fetchParams.ibdPeerTimeout, c)] })
  | (n, f), "send" => (n.send c (.getBlocks loc), f)
  | s, _ => s

-- `Except.isOk` (`okB_eq` in BlockRule); a tie is built, or skipped, on its own and so declares its own copy
def okB4 {α : Type} (x : Except Err α) : Bool := match x with | .ok _ => true | .error _ => false

/-- the refinement: `chainStep` is the translated effect list folded over the state; when the locator cannot be built the
exception escapes in both (the model then reports the error; the pruned list had been stored) -/
theorem model_chain_step_is_translated_effects (C : Crypto) (n : Node) (f : FetchSt) (now : Int) (pick : Nat) (hd : Block)
    (hhead : n.mgr.coinstate.head = some hd) :
    let cands := candidates fetchParams n f now
    let c := cands.getD (pick % cands.length) 0
    let loc := match locator C n.mgr.coinstate with | .ok l => l | .error _ => []
    let eff := Gen.chain_step_effects
      (Gen.should_fetch now hd.header.summary.timestamp f.startedAt) cands.isEmpty
      (pruneFetching n f now).length (okB4 (locator C n.mgr.coinstate))
    (match chainStep C fetchParams n f now pick with
      | .ok (n', f') =>
          eff.2 = false ∧ (eff.1.foldl (runStepEffect n f now loc c) (n, f)).1 = n' ∧
          (eff.1.foldl (runStepEffect n f now loc c) (n, f)).2.fetching = f'.fetching ∧
          f'.startedAt = f.startedAt ∧ f'.lastEmpty = f.lastEmpty
      | .error _ => eff.2 = true) := by
  intro cands c loc eff
  have hmax : fetchParams.maxIbdPeers = Gen.MAX_IBD_PEERS := rfl
  simp only [eff, should_fetch_eq]
  -- one case per path of the translated tree and per answer of `locator`: the tests of the path are those of `chainStep`
  fun_cases Gen.chain_step_effects (shouldFetch fetchParams hd.header.summary.timestamp f.startedAt now) cands.isEmpty
      (pruneFetching n f now).length (okB4 (locator C n.mgr.coinstate)) <;>
    cases hl : locator C n.mgr.coinstate <;>
    simp_all +zetaDelta [chainStep, runStepEffect, okB4, Nat.not_lt_of_le]

end GenTie
