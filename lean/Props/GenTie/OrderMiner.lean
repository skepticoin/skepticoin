import Props.GenTie.Order
import Gen.MinerFoundEffects

/-! What may happen before what in the miner's found-block handler as translated (C12); no model in between. -/

namespace GenTie

/-- C12: the miner's found-block handler installs, relays, buffers and flushes only after its own full validation added the block -/
theorem miner_found_orders (not_a_solution add_ok : Bool) :
    let e := (Gen.miner_found_effects not_a_solution add_ok).1
    (not_a_solution = true → e = []) ∧
    ("adopt_validated" ∈ e → add_ok = true ∧ precededBy e "adopt_validated" ["validate_and_add"] = true) ∧
    ("broadcast" ∈ e → precededBy e "broadcast" ["validate_and_add", "adopt_validated"] = true) ∧
    ("flush" ∈ e → precededBy e "flush" ["validate_and_add", "adopt_validated", "buffer"] = true) := by
  cases not_a_solution <;> cases add_ok <;> decide

end GenTie
