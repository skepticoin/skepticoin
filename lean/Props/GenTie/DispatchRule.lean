import Proofs.Chain
import Gen.DispatchEffects
import Gen.DataDispatchEffects
import Gen.InventoryEffects
import Gen.GetDataEffects
import Gen.CheckInventory
import Proofs.NodeLemmas

/-!
GenTie.DispatchRule — `ConnectedRemotePeer.handle_message_received` and the handlers it dispatches to, translated from the
current source, are the model's `handleMessage`:

* the dispatcher: a greeting is handled whether or not one was received before; anything else from a connection that has not
  greeted raises ("First message must be Hello") and nothing changes; otherwise the message goes to the handler of its class;
* `handle_data_message_received`: blocks and transactions go to their handlers, any other payload type raises;
* `handle_inventory_message_received`: over-limit raises; empty notes the time and clears the waiting flag; otherwise the
  batch is recorded, the data of every listed block that is not stored is requested (`check_inventory_messages`, translated
  as its two nested scans), and the next batch is asked for;
* `handle_get_data_message_received`: a non-block type raises, an unknown id is ignored, a stored block is sent;
* (model only) no handler of the model ever raises the dispatcher's own exception: `Foreign`, the `…_foreign` lemmas,
  `model_raises_first_must_be_hello_iff` — what stating the dispatcher rule as an equivalence needs.
-/

namespace GenTie
open Model

def kindOf : InMsg → Nat
  | .hello _ _ => 0
  | .getBlocks _ => 1
  | .inventory _ => 2
  | .getData _ _ => 3
  | .dataBlock _ => 4
  | .dataTx _ => 4
  | .dataHeader => 4
  | .getPeers => 5
  | .peers => 6

def tokenOf : InMsg → String
  | .hello _ _ => "hello"
  | .getBlocks _ => "get_blocks"
  | .inventory _ => "inventory"
  | .getData _ _ => "get_data"
  | .dataBlock _ => "data"
  | .dataTx _ => "data"
  | .dataHeader => "data"
  | .getPeers => "get_peers"
  | .peers => "peers"

/-- every decoded message goes to the handler of its class, except that a connection that has not greeted may only greet -/
theorem dispatch_routes (m : InMsg) (helloReceived : Bool) :
    Gen.dispatch_effects (kindOf m) helloReceived =
      if kindOf m = 0 ∨ helloReceived = true then ([tokenOf m], false) else ([], true) := by
  cases m <;> cases helloReceived <;> rfl

/-! ### which exceptions escape the handlers

To state the dispatcher rule as an equivalence one has to know that no *handler* ever raises the dispatcher's own exception:
every exception a handler of the model lets escape is a `KeyError`, a validation / range error, or one of the
`NotImplementedError`s — never `Exception("First message must be Hello")`. -/

/-- the exception of the dispatcher -/
def firstMustBeHello : Err := .other "First message must be Hello"

/-- `x`, if it raises, raises something else than the dispatcher's exception -/
def Foreign {α : Type} (x : Except Err α) : Prop := ∀ e, x = .error e → e ≠ firstMustBeHello

namespace Foreign

theorem ok {α : Type} (a : α) : Foreign (.ok a : Except Err α) := by
  intro e h; cases h

theorem err {α : Type} {e : Err} (h : e ≠ firstMustBeHello) : Foreign (.error e : Except Err α) := by
  intro e' h'; cases h'; exact h

theorem key {α : Type} (s : String) : Foreign (.error (.key s) : Except Err α) :=
  err (by simp [firstMustBeHello])

theorem verr {α : Type} (s : String) : Foreign (Model.verr s : Except Err α) :=
  err (by simp [firstMustBeHello])

theorem require (c : Bool) (s : String) : Foreign (Model.require c s) := by
  unfold Model.require; split
  · exact ok _
  · exact verr _

theorem requireRange (c : Bool) : Foreign (Model.requireRange c) := by
  unfold Model.requireRange; split
  · exact ok _
  · exact err (by simp [firstMustBeHello])

theorem bind {α β : Type} {x : Except Err α} {f : α → Except Err β} (hx : Foreign x) (hf : ∀ a, Foreign (f a)) :
    Foreign (x >>= f) := by
  intro e h
  cases x with
  | error e' =>
    have : e' = e := by simpa [Bind.bind, Except.bind] using h
    subst this; exact hx _ rfl
  | ok a => exact hf a e (by simpa [Bind.bind, Except.bind] using h)

theorem mapM {α β : Type} (f : α → Except Err β) (hf : ∀ a, Foreign (f a)) (l : List α) : Foreign (l.mapM f) := by
  induction l with
  | nil => rw [List.mapM_nil]; exact ok _
  | cons a rest ih =>
    rw [List.mapM_cons]
    exact bind (hf a) fun _ => bind ih fun _ => ok _

end Foreign

theorem removeInputs_foreign (u : Utxo) (l : List Input) : Foreign (removeInputs u l) := by
  induction l generalizing u with
  | nil => exact Foreign.ok _
  | cons i rest ih =>
    simp only [removeInputs]
    split
    · exact ih _
    · exact Foreign.key _

theorem utoApplyTx_foreign (C : Crypto) (u : Utxo) (t : CTx) (cb : Bool) : Foreign (utoApplyTx C u t cb) := by
  unfold utoApplyTx
  split
  · exact Foreign.bind (Foreign.ok _) fun _ => Foreign.ok _
  · exact Foreign.bind (removeInputs_foreign u _) fun _ => Foreign.ok _

theorem utoApplyTxs_foreign (C : Crypto) (u : Utxo) (l : List CTx) : Foreign (utoApplyTxs C u l) := by
  induction l generalizing u with
  | nil => exact Foreign.ok _
  | cons t rest ih =>
    simp only [utoApplyTxs]
    exact Foreign.bind (utoApplyTx_foreign C u t false) fun _ => ih _

theorem utoApplyBlock_foreign (C : Crypto) (u : Utxo) (b : Block) : Foreign (utoApplyBlock C u b) := by
  unfold utoApplyBlock
  split
  · exact Foreign.key _
  · exact Foreign.bind (utoApplyTx_foreign C u _ true) fun _ => utoApplyTxs_foreign C _ _

theorem addBlockNoValidation_foreign (C : Crypto) (cs : CoinState) (b : Block) : Foreign (addBlockNoValidation C cs b) := by
  -- look-ups and hand-offs in sequence (`addBlockNoValidation_eq`); a failed look-up raises `KeyError`
  rw [addBlockNoValidation_eq]
  refine .bind ?_ fun _ => .bind (utoApplyBlock_foreign C _ b) fun _ => .bind ?_ fun _ => .bind ?_ fun _ => .ok _
  · unfold parentUtxo; repeat' split
    all_goals first | exact .ok _ | exact .key _
  · unfold indexWith; repeat' split
    all_goals first | exact .ok _ | exact .key _
  · unfold headWith; repeat' split
    all_goals first | exact .ok _ | exact .key _

theorem validateTxByItself_foreign (P : Params) (t : CTx) : Foreign (validateTxByItself P t) := by
  unfold validateTxByItself
  exact Foreign.bind (Foreign.require _ _) fun _ => Foreign.bind (Foreign.require _ _) fun _ =>
    Foreign.bind (Foreign.require _ _) fun _ => Foreign.bind (Foreign.requireRange _) fun _ =>
    Foreign.bind (Foreign.requireRange _) fun _ => Foreign.bind (Foreign.require _ _) fun _ =>
    Foreign.bind (Foreign.require _ _) fun _ => Foreign.require _ _

theorem validateSignature_foreign (C : Crypto) (i : Input) (o : Output) (t : Tx) : Foreign (validateSignature C i o t) := by
  unfold validateSignature
  split
  · split
    · exact Foreign.ok _
    · exact Foreign.verr _
  · exact Foreign.err (by simp [firstMustBeHello])

theorem validateInputs_foreign (C : Crypto) (u : Utxo) (t : Tx) (l : List Input) : Foreign (validateInputs C u t l) := by
  induction l with
  | nil => exact Foreign.ok _
  | cons i rest ih =>
    simp only [validateInputs]
    split
    · exact Foreign.verr _
    · exact Foreign.bind (validateSignature_foreign C _ _ _) fun _ => Foreign.bind ih fun _ => Foreign.ok _

theorem validateTxInState_foreign (C : Crypto) (u : Utxo) (t : CTx) : Foreign (validateTxInState C u t) := by
  unfold validateTxInState
  exact Foreign.bind (validateInputs_foreign C u _ _) fun _ => Foreign.require _ _

theorem validateTxAtHead_foreign (C : Crypto) (cs : CoinState) (t : CTx) : Foreign (validateTxAtHead C cs t) := by
  unfold validateTxAtHead
  split
  · exact Foreign.key _
  · exact validateTxInState_foreign C _ _

theorem addTxToPool_foreign (C : Crypto) (P : Params) (m : ChainMgr) (t : CTx) : Foreign (addTxToPool C P m t) := by
  have hr : Foreign (poolChecks C P m t) :=
    Foreign.bind (validateTxByItself_foreign P t) fun _ => Foreign.bind (validateTxAtHead_foreign C _ t) fun _ =>
      Foreign.require _ _
  exact fun e he => hr e ((addTxToPool_error C P m t e).1 he).1

theorem inventoryReply_foreign (C : Crypto) (P : Params) (cs : CoinState) (loc : List Bytes) :
    Foreign (inventoryReply C P cs loc) := by
  unfold inventoryReply
  split
  · split
    · exact Foreign.ok _
    · exact Foreign.ok _
    · apply Foreign.mapM
      intro h
      split
      · exact Foreign.ok _
      · exact Foreign.key _
  · exact Foreign.key _

theorem handleTxReceived_foreign (C : Crypto) (P : Params) (n : Node) (t : CTx) (e : Err)
    (h : (handleTxReceived C P n t).2 = some e) : e ≠ firstMustBeHello := by
  rcases handleTxReceived_cases C P n t with ⟨_, h'⟩ | ⟨e', he', h'⟩ | ⟨_, _, h'⟩ <;> rw [h'] at h
  · cases h
  · cases h
    exact addTxToPool_foreign C P n.mgr t e he'
  · cases h

theorem handleBlockReceived_foreign (C : Crypto) (P : Params) (n : Node) (c r : Nat) (b : Block) (now : Int) (e : Err)
    (h : (handleBlockReceived C P n c r b now).2 = some e) : e ≠ firstMustBeHello := by
  rw [handleBlockReceived_eq] at h
  have hspec := blockVerdict_spec C P n.mgr.coinstate r b now
  rw [BlockVerdict.eq_raise_of_err h] at hspec
  exact addBlockNoValidation_foreign C _ b e hspec

theorem model_refuses_before_greeting (C : Crypto) (P : Params) (n : Node) (c : Nat) (p : PeerSt) (i r : Nat) (m : InMsg)
    (now : Int) (hp : n.peers[c]? = some p) (hk : kindOf m ≠ 0) (hr : p.helloReceived = false) :
    handleMessage C P n c i r m now = (n, some (.other "First message must be Hello")) := by
  refine handleMessage_ungreeted C P hp hr i r (fun nonce port hm => hk ?_) now
  rw [hm]
  rfl

theorem model_raises_only_before_greeting (C : Crypto) (P : Params) (n : Node) (c : Nat) (p : PeerSt) (i r : Nat) (m : InMsg)
    (now : Int) (hp : n.peers[c]? = some p)
    (h : (handleMessage C P n c i r m now).2 = some (.other "First message must be Hello")) :
    kindOf m ≠ 0 ∧ p.helloReceived = false := by
  cases hr : p.helloReceived with
  | false =>
    cases m with
    | hello nonce port => rw [handleMessage_hello C P hp] at h; split at h <;> cases h
    | _ => exact ⟨by simp [kindOf], rfl⟩
  | true =>
    exfalso
    rw [handleMessage_greeted C P hp hr] at h
    cases m <;> simp only at h
    case hello nonce port => rw [handleMessage_hello C P hp] at h; split at h <;> cases h
    case getBlocks loc =>
      cases hi : inventoryReply C P n.mgr.coinstate loc with
      | ok ids => simp [hi] at h
      | error e =>
        simp [hi] at h
        exact inventoryReply_foreign C P _ loc e hi h
    case inventory | getData =>
      repeat' split at h
      all_goals simp at h
    case dataBlock b => exact handleBlockReceived_foreign C P n c r b now _ h rfl
    case dataTx t => exact handleTxReceived_foreign C P n t _ h rfl
    all_goals simp at h

/-- whatever the node, the connection and the message, `handleMessage` returns the dispatcher's exception **iff** the connection
exists, has not greeted, and the message is not a greeting -/
theorem model_raises_first_must_be_hello_iff (C : Crypto) (P : Params) (n : Node) (c : Nat) (i r : Nat) (m : InMsg)
    (now : Int) :
    (handleMessage C P n c i r m now).2 = some (.other "First message must be Hello") ↔
      ∃ p, n.peers[c]? = some p ∧ kindOf m ≠ 0 ∧ p.helloReceived = false := by
  constructor
  · intro h
    cases hp : n.peers[c]? with
    | none => rw [handleMessage_none C P hp] at h; simp at h
    | some p => exact ⟨p, rfl, model_raises_only_before_greeting C P n c p i r m now hp h⟩
  · rintro ⟨p, hp, hk, hr⟩
    rw [model_refuses_before_greeting C P n c p i r m now hp hk hr]

theorem dispatch_raises_iff (m : InMsg) (helloReceived : Bool) :
    (Gen.dispatch_effects (kindOf m) helloReceived).2 = true ↔ (kindOf m ≠ 0 ∧ helloReceived = false) := by
  rw [dispatch_routes]
  split
  · next h => simpa [Decidable.or_iff_not_imp_left] using h
  · next h => simpa [not_or] using h

/-- the model's `handleMessage` and the translated dispatcher agree on when "First message must be Hello" is raised, in both
directions: for a connection `c` of the node (`hp`), the translated `handle_message_received` raises (second component of
`dispatch_effects`) **if and only if** the model returns the node unchanged together with that exception
(`model_refuses_before_greeting`, `model_raises_only_before_greeting`). So on a greeted connection, or for a greeting, the
model's result is never this pair. -/
theorem model_dispatch_is_translated (C : Crypto) (P : Params) (n : Node) (c : Nat) (p : PeerSt) (i r : Nat) (m : InMsg)
    (now : Int) (hp : n.peers[c]? = some p) :
    ((Gen.dispatch_effects (kindOf m) p.helloReceived).2 = true ↔
      handleMessage C P n c i r m now = (n, some (.other "First message must be Hello"))) := by
  rw [dispatch_raises_iff]
  exact ⟨fun ⟨hk, hr⟩ => model_refuses_before_greeting C P n c p i r m now hp hk hr,
    fun h => model_raises_only_before_greeting C P n c p i r m now hp (by rw [h])⟩

/-- when the translated dispatcher does not raise, an exception escaping the model is the one of the handler the message
was routed to, never the dispatcher's -/
theorem model_dispatch_not_raised (C : Crypto) (P : Params) (n : Node) (c : Nat) (p : PeerSt) (i r : Nat) (m : InMsg)
    (now : Int) (hp : n.peers[c]? = some p) (h : (Gen.dispatch_effects (kindOf m) p.helloReceived).2 = false) :
    (handleMessage C P n c i r m now).2 ≠ some (.other "First message must be Hello") := by
  intro h2
  rw [(dispatch_raises_iff m p.helloReceived).2 (model_raises_only_before_greeting C P n c p i r m now hp h2)] at h
  cases h

/-- and then (a greeted connection) the model's result is the result of the handler the message was routed to: for the two
handlers that live outside `handleMessage` -/
theorem model_dispatch_routes_data (C : Crypto) (P : Params) (n : Node) (c : Nat) (p : PeerSt) (i r : Nat) (now : Int)
    (hp : n.peers[c]? = some p) (hg : p.helloReceived = true) :
    (∀ b, handleMessage C P n c i r (.dataBlock b) now = handleBlockReceived C P n c r b now) ∧
    (∀ t, handleMessage C P n c i r (.dataTx t) now = handleTxReceived C P n t) := by
  exact ⟨fun b => handleMessage_greeted C P hp hg i r _ now, fun t => handleMessage_greeted C P hp hg i r _ now⟩

/-- payload dispatch: a block, a transaction, anything else raises -/
theorem data_dispatch_routes :
    Gen.data_dispatch_effects true false = (["block"], false) ∧
    Gen.data_dispatch_effects false true = (["transaction"], false) ∧
    Gen.data_dispatch_effects false false = ([], true) := by
  exact ⟨rfl, rfl, rfl⟩

theorem model_data_header_raises (C : Crypto) (P : Params) (n : Node) (c : Nat) (p : PeerSt) (i r : Nat) (now : Int)
    (hp : n.peers[c]? = some p) (hg : p.helloReceived = true) :
    handleMessage C P n c i r .dataHeader now = (n, some (.other "NotImplementedError")) ∧
    (Gen.data_dispatch_effects false false).2 = true := by
  refine ⟨handleMessage_greeted C P hp hg i r _ now, ?_⟩
  rfl

def runInventoryEffect (blocksHas : Bytes → Bool) (c : Nat) (ids : List Bytes) : Node → String → Node
  | n, "note_empty" => n                        -- the scheduler's field (`Model.noteEmptyInventory`)
  | n, "clear_waiting" => n.updatePeer c fun p => { p with waitingForInventory := false }
  | n, "append_state" => n.updatePeer c fun p => { p with pendingInventory := p.pendingInventory ++ ids }
  | n, "request_missing" => (ids.filter fun i => !blocksHas i).foldl (fun nn i => nn.send c (.getData i)) n
  | n, "send_followup" => n.send c (.getBlocks [ids.getLast!])
  | n, _ => n

/-- the refinement for a greeted connection -/
theorem model_inventory_is_translated_effects (C : Crypto) (n : Node) (c : Nat) (p : PeerSt) (i r : Nat) (ids : List Bytes)
    (now : Int) (hp : n.peers[c]? = some p) (hg : p.helloReceived = true) :
    let eff := Gen.inventory_effects ids.length ids.isEmpty
    (handleMessage C Gen.params n c i r (.inventory ids) now).1 =
      eff.1.foldl (runInventoryEffect (fun x => n.mgr.coinstate.blocks.contains x) c ids) n ∧
    (handleMessage C Gen.params n c i r (.inventory ids) now).2.isSome = eff.2 := by
  intro eff
  have hl : Gen.params.inventorySize = Gen.GET_BLOCKS_INVENTORY_SIZE := rfl
  rw [handleMessage_greeted C Gen.params hp hg]
  simp only [eff, Gen.inventory_effects, hl]
  by_cases hbig : ids.length > Gen.GET_BLOCKS_INVENTORY_SIZE
  · by_cases hpos : ids.length > 0 <;> simp [hbig, hpos]
  · by_cases hemp : ids.isEmpty = true
    · have : ids = [] := by simpa using hemp
      subst this
      simp [runInventoryEffect]
    · have hemp' : ids.isEmpty = false := by simpa using hemp
      by_cases hpos : ids.length > 0 <;> simp [hbig, hpos, hemp', runInventoryEffect]

theorem check_inventory_inner_eq (stored : Bytes → Bool) (enc : Bytes → Nat) (ids : List Bytes) :
    Gen.check_inventory.inner (ids.map fun i => (false, stored i, enc i)) = (ids.filter fun i => !stored i).map enc := by
  induction ids with
  | nil => rfl
  | cons a l ih =>
    simp only [List.map_cons, Gen.check_inventory.inner, List.filter_cons]
    cases stored a <;> simp [ih]

/-- a batch that was used before is not looked at again -/
theorem check_inventory_skips_used (items : List (Bool × Bool × Nat)) (rest : List (Bool × List (Bool × Bool × Nat))) :
    Gen.check_inventory ((true, items) :: rest) = Gen.check_inventory rest := by
  simp [Gen.check_inventory]

/-- `check_inventory_messages` as translated: with every earlier batch already used and nothing of the new batch requested
yet, the ids requested are those of the new batch that are not stored, in order -/
theorem check_inventory_as_model (stored : Bytes → Bool) (enc : Bytes → Nat) (ids : List Bytes)
    (olds : List (Bool × List (Bool × Bool × Nat))) (hused : ∀ o ∈ olds, o.1 = true) :
    Gen.check_inventory (olds ++ [(false, ids.map fun i => (false, stored i, enc i))]) =
      (ids.filter fun i => !stored i).map enc := by
  induction olds with
  | nil => simp [Gen.check_inventory, check_inventory_inner_eq]
  | cons o rest ih =>
    obtain ⟨u, items⟩ := o
    have hu : u = true := hused (u, items) (by simp)
    subst hu
    rw [List.cons_append, check_inventory_skips_used]
    exact ih fun o ho => hused o (List.mem_cons_of_mem _ ho)

theorem model_get_data_is_translated_effects (C : Crypto) (P : Params) (n : Node) (c : Nat) (p : PeerSt) (i r : Nat)
    (ty id : Bytes) (now : Int) (hp : n.peers[c]? = some p) (hg : p.helloReceived = true) :
    let eff := Gen.get_data_effects (decide (ty ≠ [0, 0])) (n.mgr.coinstate.blocks.get? id).isNone
    (handleMessage C P n c i r (.getData ty id) now).2.isSome = eff.2 ∧
    (handleMessage C P n c i r (.getData ty id) now).1 =
      (if eff.1 = ["send_block"] then
        match n.mgr.coinstate.blocks.get? id with
        | some b => n.send c (.block b i)
        | none => n
       else n) := by
  intro eff
  rw [handleMessage_greeted C P hp hg]
  simp only [eff, Gen.get_data_effects]
  by_cases hty : ty ≠ [0, 0]
  · simp [hty]
  · have hty' : ty = [0, 0] := by simpa using hty
    subst hty'
    cases n.mgr.coinstate.blocks.get? id <;> simp

end GenTie
