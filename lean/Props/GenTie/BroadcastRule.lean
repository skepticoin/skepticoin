import Gen.Broadcast

/-!
GenTie.BroadcastRule — `NetworkManager.broadcast_message`, regenerated: one loop over the active peers, the send to each inside its
own `try` whose handlers (selector errors: `ValueError`, `KeyError`, `OSError`) only log.

* a send that fails with one of those errors does not end the loop: every active peer is sent to, whatever happens at the others
  (this is what C09 / C10 / C12 mean by "is relayed / broadcast": the model's `Node.broadcast` queues the message for every active
  peer);
* no such error leaves the method; the translated loop goes on after a send exactly when it did not end with another
  exception (`goes_on_iff`).
-/

namespace GenTie.Broadcast
open Gen

theorem goes_on_iff (e : SendEnd) : broadcast_goes_on e = true ↔ e ≠ .otherError := by
  cases e <;> decide

/-- with only selector-type failures every recipient is sent to and nothing escapes -/
theorem every_recipient_is_sent_to (ends : List SendEnd) (h : ∀ e ∈ ends, e ≠ .otherError) :
    broadcast_message ends = (ends.length, false) := by
  induction ends with
  | nil => rfl
  | cons e rest ih =>
    have he : broadcast_goes_on e = true := (goes_on_iff e).mpr (h e List.mem_cons_self)
    have hr := ih (fun x hx => h x (List.mem_cons_of_mem _ hx))
    simp [broadcast_message, he, hr]

/-- in particular a failing recipient in front of a healthy one does not keep the message from the healthy one -/
theorem failing_peer_does_not_stop_the_broadcast (before after : List SendEnd) (bad : SendEnd)
    (hb : bad = .valueError ∨ bad = .keyError ∨ bad = .osError)
    (h1 : ∀ e ∈ before, e ≠ .otherError) (h2 : ∀ e ∈ after, e ≠ .otherError) :
    (broadcast_message (before ++ bad :: after)).1 = before.length + 1 + after.length := by
  have : ∀ e ∈ before ++ bad :: after, e ≠ SendEnd.otherError := by
    intro e he
    rcases List.mem_append.mp he with h | h
    · exact h1 e h
    · rcases List.mem_cons.mp h with h | h
      · subst h; rcases hb with hb | hb | hb <;> simp [hb]
      · exact h2 e h
  rw [every_recipient_is_sent_to _ this]
  simp only [List.length_append, List.length_cons]
  omega

theorem recipients_are_the_active_peers : broadcast_recipients = "self.get_active_peers()" := by decide

end GenTie.Broadcast
