import Model.Framing
import Proofs.Framing
import Gen.ReceivePass

/-!
GenTie.ReceiveRule — `MessageReceiver.receive`, translated from the current source as one pass over its body
(`Gen.receive_pass`: the magic test, the length test, the delivery, with the exact slices and comparisons of the code), is the
model's `recv`: the model is that pass, iterated after every delivery that returns.
-/

-- `if_pos` / `if_neg` are needed only where the source spells a test otherwise than the model does
set_option linter.unusedSimpArgs false

namespace GenTie
open Model

/-- `recv` once the two header phases have settled -/
theorem recv_of_settle (bad : Bytes → Bool) (magic : Bytes) (maxSize : Nat) (st s₂ : RState)
    (hs : settle magic maxSize st = .ok s₂) :
    recv magic maxSize bad st =
      (match s₂.len with
        | none => ⟨s₂, [], none⟩
        | some n =>
          if n ≤ s₂.buffer.length then
            (if bad (s₂.buffer.take n) then ⟨s₂, [], some .handler⟩
             else
              ⟨(recv magic maxSize bad ⟨s₂.buffer.drop n, false, none⟩).st,
               s₂.buffer.take n :: (recv magic maxSize bad ⟨s₂.buffer.drop n, false, none⟩).payloads,
               (recv magic maxSize bad ⟨s₂.buffer.drop n, false, none⟩).err⟩)
          else ⟨s₂, [], none⟩) := by
  rw [recv_eq, hs]; rfl

/-- what one translated pass says, in the model's vocabulary -/
def ofPass (bad : Bytes → Bool) (st : RState) : Gen.PassOut → RResult
  | .raised msg => ⟨st, [], some (if msg = "Insufficient magic" then .magic else .tooBig)⟩
  | .idle b m l => ⟨⟨b, m, l⟩, [], none⟩
  | .deliver payload b m l after =>
      if bad payload then ⟨⟨b, m, l⟩, [], some .handler⟩
      else
        let r := recv Gen.MAGIC Gen.MAX_MESSAGE_SIZE bad ⟨after.1, after.2.1, after.2.2⟩
        ⟨r.st, payload :: r.payloads, r.err⟩

theorem recv_as_translated (bad : Bytes → Bool) (st : RState) :
    recv Gen.MAGIC Gen.MAX_MESSAGE_SIZE bad st = ofPass bad st (Gen.receive_pass st.buffer st.magicRead st.len) := by
  obtain ⟨b, m, l⟩ := st
  -- with the two flags known every test of the pass is a comparison of lengths; follow the pass to each of its ends
  cases m <;> cases l <;> simp [Gen.receive_pass]
  all_goals repeat' split
  -- at an end, the tests passed on the way decide the model's tests: `omega` does so however the source spells them
  -- (`len(buffer) > 3` for `4 ≤ length`), and closes a path whose tests contradict each other
  all_goals rw [recv_eq]
  all_goals simp (disch := omega) [settle, phaseM, phaseL, ofPass, if_pos, if_neg, *]
  all_goals omega

end GenTie
