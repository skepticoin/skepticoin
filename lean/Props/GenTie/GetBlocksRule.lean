import Proofs.Sync
import Proofs.Codec
import Gen.GetBlocksRange

/-!
GenTie.GetBlocksRule — the responder's search over the locator in `handle_get_blocks_message_received` (for / break / return /
else) and the bounds of the heights it lists, translated from the current source over declared atoms, are the model's
`inventoryReply.scan` and range: the first locator entry that the node stores **and** that is the parent of the active chain's
block one above it decides the start (`height + 1`); a stored entry with no active-chain block above it ends the search with
the empty reply; no usable entry means start at 1; the listing is `[start, min (start + batch) (head height + 1))`.
-/

namespace GenTie
open Model

/-- the per-entry atoms of a locator hash against a chain state: stored?, the stored block's height, the hash as a number -/
def locatorAtoms (cs : CoinState) (h : Bytes) : Bool × Nat × Nat :=
  match cs.blocks.get? h with
  | none => (false, 0, bytesToNat h)
  | some blk => (true, blk.height, bytesToNat h)

/-- the global atoms read off the by-height index of the head -/
def indexHas (index : Map Nat Block) (h : Nat) : Bool := (index.get? h).isSome
def prevAt (index : Map Nat Block) (h : Nat) : Nat := match index.get? h with | some b => bytesToNat b.prev | none => 0

/-- the translated search is the model's scan, for locator hashes and parent references of one length (32 bytes in the
protocol; `bytesToNat` is injective on byte strings of equal length) -/
theorem loop_is_scan (cs : CoinState) (index : Map Nat Block)
    (hprev : ∀ h b, index.get? h = some b → b.prev.length = 32) :
    ∀ (loc : List Bytes), (∀ x ∈ loc, x.length = 32) →
      Gen.get_blocks_range.loop (indexHas index) (prevAt index) (loc.map (locatorAtoms cs)) =
        (match inventoryReply.scan cs index loc with
          | none => none
          | some none => none
          | some (some s) => some s) := by
  intro loc
  induction loc with
  | nil => intro _; simp [Gen.get_blocks_range.loop, inventoryReply.scan]
  | cons h rest ih =>
    intro hlen
    have hh : h.length = 32 := hlen h (List.mem_cons_self)
    have hrest : ∀ x ∈ rest, x.length = 32 := fun x hx => hlen x (List.mem_cons_of_mem _ hx)
    simp only [List.map_cons, inventoryReply.scan_cons]
    cases hb : cs.blocks.get? h with
    | none =>
      have ha : locatorAtoms cs h = (false, 0, bytesToNat h) := by simp [locatorAtoms, hb]
      rw [ha, Gen.get_blocks_range.loop]
      simp [ih hrest]
    | some blk =>
      have ha : locatorAtoms cs h = (true, blk.height, bytesToNat h) := by simp [locatorAtoms, hb]
      rw [ha, Gen.get_blocks_range.loop]
      cases hi : index.get? (blk.height + 1) with
      | none => simp [indexHas, hi]
      | some nxt =>
        have hnl : nxt.prev.length = 32 := hprev _ _ hi
        by_cases hp : nxt.prev = h
        · simp [indexHas, prevAt, hi, hp]
        · have : ¬ bytesToNat nxt.prev = bytesToNat h := fun he => hp (Codec.bytesToNat_inj (hnl.trans hh.symm) he)
          simp [indexHas, prevAt, hi, hp, this, ih hrest]

/-- the bounds of the listing -/
theorem range_eq (indexHas' : Nat → Bool) (prevAt' : Nat → Nat) (loc : List (Bool × Nat × Nat)) (headHeight : Nat) :
    Gen.get_blocks_range indexHas' prevAt' loc headHeight =
      (Gen.get_blocks_range.loop indexHas' prevAt' loc).map
        (fun s => (s, min (s + Gen.GET_BLOCKS_INVENTORY_SIZE) (headHeight + 1))) := by
  unfold Gen.get_blocks_range
  cases Gen.get_blocks_range.loop indexHas' prevAt' loc <;> rfl

/-- whenever the model answers a request, the number of ids it lists is what the translated bounds say -/
theorem model_reply_length_as_translated (C : Crypto) (cs : CoinState) (loc ids : List Bytes)
    (h : inventoryReply C Gen.params cs loc = .ok ids)
    (hloc : ∀ x ∈ loc, x.length = 32) :
    ∃ index hd, cs.current.bind cs.byHeightAt.get? = some index ∧ cs.head = some hd ∧
      ((∀ hh b, index.get? hh = some b → b.prev.length = 32) →
        match Gen.get_blocks_range (indexHas index) (prevAt index) (loc.map (locatorAtoms cs)) hd.height with
        | none => ids = []
        | some (a, b) => ids.length = b - a) := by
  obtain ⟨index, hd, hidx, hhd, hcase⟩ := inventoryReply_ok C Gen.params cs loc ids h
  refine ⟨index, hd, hidx, hhd, ?_⟩
  intro hprev
  rw [range_eq, loop_is_scan cs index hprev loc hloc]
  have hI : Gen.params.inventorySize = Gen.GET_BLOCKS_INVENTORY_SIZE := rfl
  rcases hcase with ⟨hs | hs, rfl⟩ | ⟨start, hs, hl, _⟩
  · rw [hs]; rfl
  · rw [hs]; rfl
  · simp only [hs, Option.map_some]
    rw [hI] at hl
    exact hl

end GenTie
