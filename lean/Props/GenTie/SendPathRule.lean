import Model.SendPath
import Gen.CanSendEffects
import Gen.SendMessageEffects

/-!
GenTie.SendPathRule — `ConnectedRemotePeer.send_message` and `ConnectedRemotePeer.handle_can_send`, translated from the current
source as effect trees over their two tests (`len(self.send_buffer) == 0`, `len(self.send_backlog) == 0`), are the model's
`SendSt.queue` and one unfolding of `canSendAux`: the buffer is advanced by what the socket accepted, writing is switched off only
when everything in flight was accepted and nothing is queued, the next queued frame goes in flight exactly when the flight buffer
is empty, and the handler calls itself again only then. `Props/SendPath.lean` proves, of that model, that nothing queued is lost,
duplicated or reordered and that a connection never holds unsent bytes without waiting for its socket.
-/

namespace GenTie
open Model

/-- what an effect token does to the write side of a connection; `k` is what the socket accepts in this `send` call, `frame` the
framed message of this `send_message` call -/
def applyTok (k : Nat) (frame : Bytes) (s : SendSt) : String → SendSt
  | "append_frame_to_backlog" => { s with backlog := s.backlog ++ [frame] }
  | "next_frame_in_flight" =>
    (match s.backlog with
      | f :: rest => { s with buffer := f, backlog := rest }
      | [] => s)
  | "start_writing" => { s with writing := true }
  | "stop_writing" => { s with writing := false }
  | "send_buffer_to_socket" => { s with wire := s.wire ++ s.buffer.take (min k s.buffer.length) }
  | "drop_what_was_accepted" => { s with buffer := s.buffer.drop (min k (s.buffer.length)) }
  | _ => s

theorem send_message_effects_eq (fresh idle : Bool) :
    Gen.send_message_effects fresh idle =
      (["append_frame_to_backlog"] ++ (if idle then ["next_frame_in_flight", "start_writing"] else []), false) := by
  cases fresh <;> cases idle <;> rfl

theorem can_send_effects_eq (allAccepted nothingQueued : Bool) :
    Gen.can_send_effects allAccepted nothingQueued =
      (["send_buffer_to_socket", "drop_what_was_accepted"] ++
        (if allAccepted then (if nothingQueued then ["stop_writing"] else ["next_frame_in_flight", "again"]) else []), false) := by
  cases allAccepted <;> cases nothingQueued <;> rfl

/-- the model's `queue` is the translated `send_message` (whether or not the message answers another one) -/
theorem model_queue_is_translated (s : SendSt) (frame : Bytes) (fresh : Bool) :
    s.queue frame = (Gen.send_message_effects fresh s.buffer.isEmpty).1.foldl (applyTok 0 frame) s := by
  rw [send_message_effects_eq]
  unfold SendSt.queue
  cases hb : s.buffer.isEmpty
  · simp [applyTok, hb]
  · cases hq : s.backlog ++ [frame] with
    | nil => simp at hq
    | cons f rest => simp [applyTok, hb, hq]

/-- one call of the model's `handle_can_send` is the translated one: the effects up to the recursive call, and the recursive call
exactly when the translation makes it -/
theorem model_can_send_is_translated (acc : Nat → Nat) (fuel i : Nat) (s : SendSt) :
    canSendAux acc (fuel + 1) i s =
      (let sent := min (acc i) s.buffer.length
       let tr := (Gen.can_send_effects (s.buffer.drop sent).isEmpty s.backlog.isEmpty).1
       let s1 := (tr.filter (· ≠ "again")).foldl (applyTok (acc i) []) s
       if "again" ∈ tr then canSendAux acc fuel (i + 1) s1 else s1) := by
  simp only [can_send_effects_eq]
  conv => lhs; rw [canSendAux]
  cases (s.buffer.drop (min (acc i) s.buffer.length)).isEmpty
  · simp [applyTok]
  · cases hq : s.backlog with
    | nil => simp [applyTok, hq]
    | cons f rest => simp [applyTok, hq]

/-- writing is switched off only after everything in flight was accepted with nothing queued; the handler calls itself again only
after putting the next frame in flight; the buffer is advanced after — and by — what the socket accepted -/
theorem can_send_orders (a q : Bool) :
    let tr := (Gen.can_send_effects a q).1
    ("stop_writing" ∈ tr ↔ (a = true ∧ q = true)) ∧ ("again" ∈ tr ↔ (a = true ∧ q = false)) ∧
    ("again" ∈ tr → tr.idxOf "next_frame_in_flight" < tr.idxOf "again") ∧
    tr.idxOf "send_buffer_to_socket" < tr.idxOf "drop_what_was_accepted" ∧ tr.count "send_buffer_to_socket" = 1 := by
  cases a <;> cases q <;> decide

end GenTie
