import Gen.GetRecentBlockHeights
import Gen.IsTimeToConnect

/-!
GenTie.Heights — `get_recent_block_heights` (the heights of a locator, C10) and `is_time_to_connect` (the back-off, C19),
translated from the current source, are the model's `recentHeights` and `isTimeToConnect`: the first for either order of
`filter` and `map`, the second as an equivalence of propositions.
-/

namespace GenTie

theorem oldness_eq :
    ((List.range' 0 10).map (fun (x : Nat) => (x : Int))) ++
      (((List.range' 4 60).map (fun (x : Nat) => (x : Int))).map (fun x => x ^ 2))
    = Model.oldness.map (fun (o : Nat) => (o : Int)) := by decide

/-- the locator heights the code computes are the model's, for every non-negative head height -/
theorem get_recent_block_heights_eq (h : Nat) :
    Gen.get_recent_block_heights (h : Int) = (Model.recentHeights h).map (fun (x : Nat) => (x : Int)) := by
  unfold Gen.get_recent_block_heights Model.recentHeights
  rw [oldness_eq]
  -- whichever of `filter` and `map` the source applies first: bring the filter inside, then compare test and value per element
  simp only [List.filter_map, List.map_map]
  rw [List.filter_congr (q := fun o => decide (o ≤ h))
    (fun o _ => by simp only [Function.comp]; exact decide_eq_decide.mpr (by omega))]
  refine List.map_congr_left fun o ho => ?_
  have : o ≤ h := of_decide_eq_true (List.mem_filter.mp ho).2
  simp only [Function.comp]
  omega

/-- the code's `is_time_to_connect`, as translated from the current source, is the model's -/
theorem is_time_to_connect_eq (ban : Nat) (last : Option Int) (now : Int) :
    Gen.is_time_to_connect ban last now = Model.isTimeToConnect Gen.params ban last now := by
  unfold Gen.is_time_to_connect Model.isTimeToConnect
  -- both are Boolean combinations of comparisons of integers once `2 ^ ban` is an unknown: equal as propositions
  refine Bool.eq_iff_iff.mpr ?_
  have hp : ((2 : Int) ^ ban) = (((2 : Nat) ^ ban : Nat) : Int) := by simp
  rw [hp]
  generalize (2 : Nat) ^ ban = p
  cases last <;>
    simp [Gen.params, Gen.TIME_TO_SECOND_CONNECTION_ATTEMPT, Gen.MAX_TIME_BETWEEN_CONNECTION_ATTEMPTS,
      Gen.MAX_CONNECTION_ATTEMPTS] <;>
    omega

end GenTie
