import Gen.GetBlockSubsidy
import Gen.ValidateSashimiRange

/-!
GenTie.Subsidy — `consensus.get_block_subsidy` and `consensus.validate_sashimi_range`, translated from the current source, are
the model's `subsidy` and `sashimiInRange` at the translated constants (C16, C02); the halving may be spelt as a shift or as a
division.
-/

namespace GenTie

theorem get_block_subsidy_eq (h : Nat) : Gen.get_block_subsidy h = Model.subsidy Gen.params h := by
  have hI : Gen.params.halvingInterval = Gen.SUBSIDY_HALVING_INTERVAL := rfl
  have hS : Gen.params.initialSubsidy = Gen.INITIAL_SUBSIDY := rfl
  -- the source may spell the halving as a shift
  have hshift (a b : Nat) : a >>> b = a / 2 ^ b := Nat.shiftRight_eq_div_pow a b
  fun_cases Gen.get_block_subsidy h <;> simp_all +zetaDelta [Model.subsidy] <;> omega

theorem validate_sashimi_range_eq (v : Nat) :
    Gen.validate_sashimi_range v = Model.sashimiInRange Gen.params v := by
  have hM : Gen.params.maxSashimi = Gen.MAX_SASHIMI := rfl
  fun_cases Gen.validate_sashimi_range v <;> simp_all [Model.sashimiInRange] <;> omega

end GenTie
