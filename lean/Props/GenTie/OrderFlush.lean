import Props.GenTie.Order
import Gen.FlushEffects

/-! What may happen before what in `flush_blocks_to_disk` as translated (C08); no model in between. -/

namespace GenTie

/-- C08: the buffer is emptied only after the write of the whole buffer, inside the lock -/
theorem flush_orders (buffer_nonempty : Bool) :
    let e := (Gen.flush_effects buffer_nonempty).1
    ("clear_buffer" ∈ e → precededBy e "clear_buffer" ["acquire", "write_whole_buffer"] = true ∧
      precededBy e "release" ["clear_buffer"] = true) := by
  cases buffer_nonempty <;> decide

end GenTie
