import Model.Node
import Gen.HandleTxEffects

/-!
GenTie.TxHandlerRule — `ConnectedRemotePeer.handle_transaction_received`, translated from the current source as an effect tree, is
the model's `handleTxReceived`: a transaction that is already pending is ignored (not relayed again); otherwise it is offered to
the pool and relayed to the greeted peers exactly when the pool admitted it.
-/

namespace GenTie
open Model

def runTxEffect (t : CTx) (n : Node) : String → Node
  | "broadcast" => n.broadcast (.tx t)
  | _ => n

/-- the refinement, for a submission on which the pool's validation does not raise past the handler -/
theorem model_tx_handler_is_translated_effects (C : Crypto) (n : Node) (t : CTx) (m' : ChainMgr) (admitted : Bool)
    (hpool : ¬ n.mgr.pool.any (fun x => x.tx = t.tx) = true → addTxToPool C Gen.params n.mgr t = .ok (m', admitted)) :
    let pending := n.mgr.pool.any (fun x => x.tx = t.tx)
    let eff := Gen.handle_tx_effects pending admitted
    (handleTxReceived C Gen.params n t).1 =
      eff.1.foldl (runTxEffect t) (if pending then n else { n with mgr := m' }) ∧
    (handleTxReceived C Gen.params n t).2 = none ∧ eff.2 = false := by
  intro pending eff
  simp only [eff, pending]
  -- the ends of the translated tree: 1 already pending, 2 admitted, 3 not admitted
  fun_cases Gen.handle_tx_effects (n.mgr.pool.any fun x => x.tx = t.tx) admitted
  case case1 _ hp => simp +zetaDelta [handleTxReceived, hp]
  case case2 _ hp hadm _ =>
    subst hadm
    simp +zetaDelta [handleTxReceived, hp, hpool hp, runTxEffect]
  case case3 _ hp hadm =>
    have hadm' : admitted = false := by simpa using hadm
    subst hadm'
    simp +zetaDelta [handleTxReceived, hp, hpool hp]

end GenTie
