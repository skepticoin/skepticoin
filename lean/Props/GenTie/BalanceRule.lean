import Model.Wallet
import Gen.GetBalance

/-!
GenTie.BalanceRule — `Wallet.get_balance`, translated from the current source, is the model's `Wallet.balance`: the sum over the
handed-out (annotated) keys **and** the unused keys of the value of each key's balance entry at the head, 0 for a key without an
entry; the wallet is not changed by asking.
-/

namespace GenTie
open Model

theorem get_balance_eq (w : Wallet) (bal : PKBalances) :
    Gen.get_balance (w.annotations.map (·.1)) w.unused bal = w.balance bal := by
  have h : ∀ pk, ((bal.get? pk).getD ⟨0, []⟩).value = pkValue bal pk := by
    intro pk; unfold pkValue; cases bal.get? pk <;> rfl
  -- a sum over both lists of keys, whichever the source puts first
  simp [Gen.get_balance, Wallet.balance, h, List.sum_append, Int.add_comm]

end GenTie
