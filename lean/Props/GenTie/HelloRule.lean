import Model.PeerBook
import Proofs.Map
import Gen.HelloEffects

/-!
GenTie.HelloRule — `ConnectedRemotePeer.handle_hello_message_received`, translated from the current source as an effect tree, is the
model's `Book.apply (.hello …)` for a connection recorded in the book: the peer is marked as greeted and its failure count reset;
for an incoming connection the reverse (outgoing) address is added to the waiting map **only if it is neither waiting nor
connected** (nothing known about it is overwritten); for an outgoing connection whose greeting carries the node's own nonce the
**dialled** address is remembered as the node's own and the connection is dropped.
-/

namespace GenTie
open Model

def runHelloEffect (k : PeerKey) (myPort : Nat) (b : Book) : String → Book
  | "mark_greeted" =>
      (match b.connected.get? k with
        | some p => { b with connected := b.connected.set k { p with helloReceived := true } }
        | none => b)
  | "reset_failures" =>
      (match b.connected.get? k with
        | some p => { b with connected := b.connected.set k { p with banScore := 0 } }
        | none => b)
  | "announce_reverse" => { b with disconnected := b.disconnected.set ⟨k.host, myPort, true⟩ ⟨none, 0⟩ }
  | "remember_own_address" => { b with myAddresses := (k.host, k.port) :: b.myAddresses }
  | "drop_self" => (match b.connected.get? k with | some p => b.disconnect k p.serial | none => b)
  | _ => b                                  -- sanity_check, write_peers: the book is not changed

/-- the refinement, for a connection recorded under `k` -/
theorem model_hello_is_translated_effects (P : Params) (b : Book) (k : PeerKey) (p : ConnPeer) (mine : Bool) (myPort : Nat)
    (hk : b.connected.get? k = some p) :
    let p' : ConnPeer := { p with helloReceived := true, banScore := 0 }
    let b₁ : Book := { b with connected := b.connected.set k p' }
    let rk : PeerKey := ⟨k.host, myPort, true⟩
    let eff := Gen.hello_effects (!k.outgoing) k.outgoing (b₁.disconnected.contains rk) (b₁.connected.contains rk) mine
    Book.apply P b (.hello k mine myPort) = eff.1.foldl (runHelloEffect k myPort) b ∧ eff.2 = false := by
  intro p' b₁ rk eff
  simp only [eff]
  -- one case per path of the translated tree: its tests settle which branch of `Book.apply` / `Book.announce` is taken, and
  -- the effects of the path, run in order, build the same book (the two updates of the connection's entry merge: `set_set`)
  fun_cases Gen.hello_effects (!k.outgoing) k.outgoing (b₁.disconnected.contains rk) (b₁.connected.contains rk) mine
  all_goals simp_all +zetaDelta [Book.apply, Book.announce, runHelloEffect, Map.set_set, Map.get?_set_self]

end GenTie
