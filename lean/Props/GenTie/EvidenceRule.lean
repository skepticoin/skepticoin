import Model.Consensus
import Gen.Evidence

/-!
GenTie.EvidenceRule — the proof-of-work evidence (`construct_summary_hash`, `construct_pow_evidence_after_scrypt`,
`construct_pow_evidence`), regenerated into the model's record: the summary hash is scrypt of the serialised summary salted with
the height; the chain sample is zeros for a block of height 0 and otherwise the slices selected by the summary hash from the
blocks on the chain of the summary's parent; the block hash is blake2 over summary hash, sample and the serialised transactions
— and `construct_pow_evidence` recomputes the summary hash from the summary (it does not take it from anywhere else).

The model's `evidenceAfterScrypt` / `constructEvidence` (the evidence rule of C05 compares a block's evidence with them) are
these functions with the model's sampler, blake2 and list encoder plugged in.
-/

namespace GenTie.Evidence
open Model Gen

theorem sample_size_eq : Gen.params.sampleCount * Gen.params.sampleSize = Gen.CHAIN_SAMPLE_TOTAL_SIZE := by decide

theorem after_scrypt_closed_form {α : Type} (select : Bytes → Nat → Bytes) (blake2 : Bytes → Bytes) (ser : List α → Bytes)
    (sh : Bytes) (h : Nat) (txs : List α) :
    construct_pow_evidence_after_scrypt select blake2 ser sh h txs =
      let sample := if h = 0 then zeros Gen.CHAIN_SAMPLE_TOTAL_SIZE else select sh h
      ⟨sh, sample, blake2 (sh ++ sample ++ ser txs)⟩ := by
  by_cases hh : h = 0 <;> simp [construct_pow_evidence_after_scrypt, hh]

/-- the summary hash inside the evidence is recomputed from the summary and the height -/
theorem evidence_recomputes_summary_hash {α : Type} (scrypt : Bytes → Bytes → Bytes) (select : Bytes → Nat → Bytes)
    (blake2 : Bytes → Bytes) (ser : List α → Bytes) (sb : Bytes) (h : Nat) (txs : List α) :
    (construct_pow_evidence scrypt select blake2 ser sb h txs).summaryHash = scrypt sb (natToBytes 8 h) := by
  simp [construct_pow_evidence, construct_summary_hash, after_scrypt_closed_form]

variable (C : Crypto)

/-- the model's evidence after scrypt is the translated one on the model's sampler -/
theorem model_after_scrypt_as_translated (cs : CoinState) (sh : Bytes) (s : Summary) (height : Nat) (txs : List CTx)
    (select : Bytes → Nat → Bytes)
    (hsel : height ≠ 0 →
      selectSlices C (fun h => (cs.byHeightAt.get? s.prev).bind (·.get? h)) height Gen.params.sampleSize Gen.params.sampleCount sh
        = .ok (select sh height)) :
    evidenceAfterScrypt C Gen.params cs sh s height txs =
      .ok (construct_pow_evidence_after_scrypt select C.blake2 encTxList sh height txs) := by
  unfold evidenceAfterScrypt chainSample
  by_cases hh : height = 0
  · simp [hh, after_scrypt_closed_form, sample_size_eq]
  · simp [hh, hsel hh, after_scrypt_closed_form]

/-- … and when the sampler fails (a sampled height is not stored), so does the model's construction -/
theorem model_after_scrypt_error (cs : CoinState) (sh : Bytes) (s : Summary) (height : Nat) (txs : List CTx) (e : Err)
    (hh : height ≠ 0)
    (hsel : selectSlices C (fun h => (cs.byHeightAt.get? s.prev).bind (·.get? h)) height Gen.params.sampleSize
      Gen.params.sampleCount sh = .error e) :
    evidenceAfterScrypt C Gen.params cs sh s height txs = .error e := by
  unfold evidenceAfterScrypt chainSample
  simp [hh, hsel]

/-- the model's `constructEvidence` is the translated `construct_pow_evidence` -/
theorem model_construct_evidence_as_translated (cs : CoinState) (s : Summary) (height : Nat) (txs : List CTx)
    (select : Bytes → Nat → Bytes)
    (hsel : height ≠ 0 →
      selectSlices C (fun h => (cs.byHeightAt.get? s.prev).bind (·.get? h)) height Gen.params.sampleSize Gen.params.sampleCount
        (summaryHash C s height) = .ok (select (summaryHash C s height) height)) :
    constructEvidence C Gen.params cs s height txs =
      .ok (construct_pow_evidence C.scrypt select C.blake2 encTxList (encSummary s) height txs) := by
  unfold constructEvidence
  rw [model_after_scrypt_as_translated C cs _ s height txs select hsel]
  rfl

end GenTie.Evidence
