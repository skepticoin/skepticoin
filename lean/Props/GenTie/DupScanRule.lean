import Model.Consensus
import Gen.SeenScans
import Proofs.Scan

/-!
GenTie.DupScanRule — the two scans with a `seen` set (`validate_no_duplicate_transactions`,
`validate_no_duplicate_output_references_in_transactions`), regenerated as folds whose state is the set seen so far and `none`
once the `raise` was reached.

* each returns normally exactly when the keys it scans — the transactions; the output references of all inputs of all
  transactions, across transactions — are pairwise distinct;
* the model's two rules (in `validateBlockByItself` and in `addTxToPool`) are these functions on the model's keys.
-/

namespace GenTie.DupScan
open Model Gen

theorem fold_some {α : Type} [DecidableEq α] (l s : List α) :
    l.foldl seen_step (some s) = if l.Nodup ∧ (∀ x ∈ l, x ∉ s) then some (l.reverse ++ s) else none := by
  induction l generalizing s with
  | nil => simp
  | cons x xs ih =>
    simp only [List.foldl_cons, seen_step]
    by_cases hx : x ∈ s
    · simp [hx, foldl_none (f := seen_step) fun _ => rfl]
    · simp only [hx, ↓reduceIte, ih, nodup_unseen_cons, not_false_eq_true, true_and, List.reverse_cons, List.append_assoc,
        List.singleton_append]

/-- `validate_no_duplicate_transactions` returns normally exactly when no transaction occurs twice -/
theorem no_duplicate_transactions_eq {α : Type} [DecidableEq α] (l : List α) :
    no_duplicate_transactions l = decide l.Nodup := by
  unfold no_duplicate_transactions
  rw [fold_some]
  by_cases h : l.Nodup <;> simp [h]

/-- `validate_no_duplicate_output_references_in_transactions` returns normally exactly when no output reference occurs twice
among all inputs of all the transactions -/
theorem no_duplicate_output_references_eq {α : Type} [DecidableEq α] (ls : List (List α)) :
    no_duplicate_output_references ls = decide ls.flatten.Nodup := by
  unfold no_duplicate_output_references
  rw [← List.foldl_flatten, fold_some]
  by_cases h : ls.flatten.Nodup <;> simp [h]

theorem raised_classes :
    no_duplicate_transactions_raises = "ValidateTransactionError" ∧
    no_duplicate_output_references_raises = "ValidateTransactionError" := ⟨rfl, rfl⟩

/-- the model's rule on output references (block validation, and admission to the pool) is the translated scan -/
theorem model_refs_rule (txs : List CTx) :
    decide (allRefs txs).Nodup = no_duplicate_output_references (txs.map fun t => t.tx.inputs.map (·.ref)) := by
  rw [no_duplicate_output_references_eq]
  apply decide_eq_decide.mpr
  simp [allRefs, List.flatMap]

/-- the model's rule on repeated transactions is the translated scan on the keys Python compares (`Transaction.__eq__` after
the hash) -/
theorem model_dup_tx_rule (C : Crypto) (txs : List CTx) :
    noDuplicateTxs C txs = no_duplicate_transactions (txs.map fun t => (t.id C, t.tx)) := by
  rw [no_duplicate_transactions_eq]
  induction txs with
  | nil => rfl
  | cons t rest ih =>
    rw [Bool.eq_iff_iff]
    simp only [noDuplicateTxs, ih, Bool.and_eq_true, Bool.not_eq_true', List.map_cons, decide_eq_true_eq, List.nodup_cons,
      List.mem_map, Prod.mk.injEq, List.any_eq_false, not_exists, not_and]

end GenTie.DupScan
