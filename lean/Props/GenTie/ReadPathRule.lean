import Gen.ReceiveDataEffects

/-!
GenTie.ReadPathRule — `ConnectedRemotePeer.handle_receive_data`, translated from the current source: every read, whatever its
bytes and whatever the state of the connection, is handed to the connection's `MessageReceiver` (the model's `Framing.feed`), and
nothing else happens. Fragmentation-independence (C11) is a theorem about `feed`; this is what makes it a statement about the
node's read path.
-/

namespace GenTie

theorem every_read_goes_to_the_receiver : Gen.receive_data_effects = (["receive"], false) := by
  rfl

end GenTie
