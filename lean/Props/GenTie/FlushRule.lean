import Model.Node
import Gen.FlushEffects
import Gen.BufferAddEffects

/-!
GenTie.FlushRule — `BlockStore.flush_blocks_to_disk`, translated from the current source as an effect tree, is the model's flush:
the **whole** write buffer, in buffer order, is handed to the writer in one call, then the buffer is cleared; an empty buffer means
no write at all.
-/

namespace GenTie
open Model

/-- on the node model: the store's rows (insert-or-ignore by id) and the buffer -/
def runFlushEffect (C : Crypto) (n : Node) : String → Node
  | "write_whole_buffer" =>
      { n with disk := n.wbuf.foldl (fun d b => if d.any (fun x => x.id C = b.id C) then d else d ++ [b]) n.disk }
  | "clear_buffer" => { n with wbuf := [] }
  | _ => n

theorem model_flush_is_translated_effects (C : Crypto) (n : Node) :
    Node.flush C n = (Gen.flush_effects (n.wbuf.length != 0)).1.foldl (runFlushEffect C) n ∧
    (Gen.flush_effects (n.wbuf.length != 0)).2 = false := by
  -- an empty buffer: nothing is written, and clearing it changes nothing
  obtain ⟨mgr, wbuf, disk, peers, nonce⟩ := n
  cases wbuf <;> simp [Node.flush, Gen.flush_effects, runFlushEffect]

/-- the effect list in closed form: with something buffered, one write of the whole buffer and then the clearing, inside the
lock; otherwise only acquire and release -/
theorem flush_writes_the_whole_buffer (buffer_nonempty : Bool) :
    (Gen.flush_effects buffer_nonempty).1 =
      (if buffer_nonempty then ["acquire", "write_whole_buffer", "clear_buffer", "release"] else ["acquire", "release"]) := by
  cases buffer_nonempty <;> rfl

/-! ### two writers of one store (miner thread and networking thread)

`add_block_to_buffer` is translated too. Both functions touch the buffer only between acquiring and releasing the store's lock;
so in every schedule of a flush and a concurrent hand-over that respects the lock, the block handed over is neither lost nor
does it make an earlier block get lost: it is written by this flush or still buffered for the next. -/

theorem buffer_add_under_lock : Gen.buffer_add_effects = (["acquire", "append", "release"], false) := by
  rfl

/-- all ways of merging the steps of thread 0 and thread 1 into one schedule -/
def mergesF : Nat → List String → List String → List (List (Nat × String))
  | 0, _, _ => []
  | _ + 1, [], b => [b.map fun y => (1, y)]
  | _ + 1, x :: a, [] => [(x :: a).map fun y => (0, y)]
  | k + 1, x :: a, y :: b =>
      (mergesF k a (y :: b)).map (fun m => (0, x) :: m) ++ (mergesF k (x :: a) b).map (fun m => (1, y) :: m)

def merges (a b : List String) : List (List (Nat × String)) := mergesF (a.length + b.length + 1) a b

/-- a schedule respects the lock: it is acquired only when free and released only by its owner -/
def lockOk : Option Nat → List (Nat × String) → Bool
  | _, [] => true
  | owner, (t, tok) :: rest =>
    if tok = "acquire" then owner.isNone && lockOk (some t) rest
    else if tok = "release" then (owner == some t) && lockOk none rest
    else lockOk owner rest

/-- the store under a schedule: rows, buffer; `x` is the block handed over -/
def runSched {β : Type} (x : β) : List β × List β → List (Nat × String) → List β × List β
  | s, [] => s
  | (d, b), (_, tok) :: rest =>
    if tok = "write_whole_buffer" then runSched x (d ++ b, b) rest
    else if tok = "clear_buffer" then runSched x (d, []) rest
    else if tok = "append" then runSched x (d, b ++ [x]) rest
    else runSched x (d, b) rest

theorem lock_respecting_schedules (ne : Bool) :
    (merges (Gen.flush_effects ne).1 Gen.buffer_add_effects.1).filter (lockOk none) =
      [ ((Gen.flush_effects ne).1.map fun y => (0, y)) ++ (Gen.buffer_add_effects.1.map fun y => (1, y)),
        (Gen.buffer_add_effects.1.map fun y => (1, y)) ++ ((Gen.flush_effects ne).1.map fun y => (0, y)) ] := by
  cases ne <;> decide

/-- no schedule that respects the lock loses a block -/
theorem concurrent_handover_not_lost {β : Type} (ne : Bool) (x : β) (d b : List β) (m : List (Nat × String))
    (hm : m ∈ merges (Gen.flush_effects ne).1 Gen.buffer_add_effects.1) (hl : lockOk none m = true) :
    let s := runSched x (d, b) m
    (x ∈ s.1 ∨ x ∈ s.2) ∧ (∀ y ∈ b, y ∈ s.1 ∨ y ∈ s.2) ∧ (∀ y ∈ d, y ∈ s.1) := by
  have hmem : m ∈ (merges (Gen.flush_effects ne).1 Gen.buffer_add_effects.1).filter (lockOk none) :=
    List.mem_filter.2 ⟨hm, hl⟩
  rw [lock_respecting_schedules, flush_writes_the_whole_buffer, buffer_add_under_lock] at hmem
  -- the flush comes before the hand-over or after it; both are run, with and without something to write
  cases ne <;> simp at hmem <;> rcases hmem with rfl | rfl <;> simp +contextual [runSched]

/-- without the lock around the hand-over there is a schedule that loses the block (so the lock tokens carry weight) -/
example :
    ∃ m ∈ merges (Gen.flush_effects true).1 ["append"], lockOk none m = true ∧
      (2 : Nat) ∉ (runSched 2 ([], [1]) m).1 ∧ (2 : Nat) ∉ (runSched 2 ([], [1]) m).2 :=
  ⟨[(0, "acquire"), (0, "write_whole_buffer"), (1, "append"), (0, "clear_buffer"), (0, "release")], by decide, by decide, by decide, by decide⟩

end GenTie
