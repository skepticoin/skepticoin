import Model.Ledger
import Proofs.Map
import Gen.Balances

/-!
GenTie.BalancesRule — `uto_apply_transaction` and `pkb_apply_transaction` of balances.py, translated from the current source as
programs over the model's `Map` (loops over the inputs and outputs of a transaction threading one mutable map; a missing key is
an error), are the model's `utoApplyTx` / `pkbApplyTx` (results compared up to the text of the error).
-/

namespace GenTie
open Model

-- `Except.toOption`; AddBlockNvRule declares its own copy `okOf'` (a tie is built, or skipped, on its own)
def okOf {α : Type} (x : Except Err α) : Option α := match x with | .ok a => some a | .error _ => none

theorem okOf_eq_cases {α : Type} {x y : Except Err α} (h : okOf x = okOf y) :
    (∃ e e', x = .error e ∧ y = .error e') ∨ ∃ a, x = .ok a ∧ y = .ok a := by
  cases x <;> cases y <;> simp_all [okOf]

theorem uto_loop0_eq (txid : Bytes) (ins : List Input) : ∀ m : Utxo,
    okOf (Gen.uto_apply_transaction.loop0 txid m ins) = okOf (removeInputs m ins) := by
  induction ins with
  | nil => intro m; rfl
  | cons i rest ih =>
    intro m
    simp only [Gen.uto_apply_transaction.loop0, removeInputs]
    cases m.contains i.ref with
    | true => exact ih _
    | false => rfl

theorem uto_loop1_eq (txid : Bytes) (outs : List Output) : ∀ (m : Utxo) (i : Nat),
    Gen.uto_apply_transaction.loop1 txid m outs i = .ok (addOutputs m txid outs i) := by
  induction outs with
  | nil => intro m i; rfl
  | cons o rest ih =>
    intro m i
    simp only [Gen.uto_apply_transaction.loop1, addOutputs]
    exact ih _ _

/-- the unspent-output update of one transaction -/
theorem uto_apply_transaction_eq (C : Crypto) (u : Utxo) (t : CTx) (isCoinbase : Bool) :
    okOf (Gen.uto_apply_transaction (t.id C) u t.tx.inputs t.tx.outputs isCoinbase) = okOf (utoApplyTx C u t isCoinbase) := by
  unfold Gen.uto_apply_transaction utoApplyTx
  cases isCoinbase with
  | true => simp [uto_loop1_eq, okOf, bind, Except.bind, pure, Except.pure]
  | false =>
    rcases okOf_eq_cases (uto_loop0_eq (t.id C) t.tx.inputs u) with ⟨e, e', h1, h2⟩ | ⟨m, h1, h2⟩ <;>
      simp [h1, h2, uto_loop1_eq, okOf, bind, Except.bind, pure, Except.pure]

theorem pkb_loop0_eq (txid : Bytes) (u : Utxo) (ins : List Input) : ∀ m : PKBalances,
    okOf (Gen.pkb_apply_transaction.loop0 txid u m ins) = okOf (pkbSpend u m ins) := by
  induction ins with
  | nil => intro m; rfl
  | cons i rest ih =>
    intro m
    simp only [Gen.pkb_apply_transaction.loop0, pkbSpend]
    cases u.get? i.ref with
    | none => rfl
    | some o =>
      dsimp only
      cases m.get? o.pk with
      | none => rfl
      | some bal => exact ih _

theorem pkb_loop1_eq (txid : Bytes) (u : Utxo) (outs : List Output) : ∀ (m : PKBalances) (i : Nat),
    Gen.pkb_apply_transaction.loop1 txid u m outs i = .ok (pkbCredit m txid outs i) := by
  induction outs with
  | nil => intro m i; rfl
  | cons o rest ih =>
    intro m i
    simp only [Gen.pkb_apply_transaction.loop1, pkbCredit]
    cases h : m.get? o.pk with
    | none =>
      have hc := (Map.contains_eq_false_iff m o.pk).2 h
      simp only [hc, Bool.not_false, ↓reduceIte, Map.get?_set_self, Option.getD_none, Map.set_set]
      simpa using ih _ _
    | some bal =>
      have hc := Map.contains_of_get? m o.pk bal h
      simp only [hc, Bool.not_true, Bool.false_eq_true, ↓reduceIte, h, Option.getD_some]
      exact ih _ _

/-- the balance update of one transaction -/
theorem pkb_apply_transaction_eq (C : Crypto) (u : Utxo) (pkb : PKBalances) (t : CTx) (isCoinbase : Bool) :
    okOf (Gen.pkb_apply_transaction (t.id C) u pkb t.tx.inputs t.tx.outputs isCoinbase) =
      okOf (pkbApplyTx C u pkb t isCoinbase) := by
  unfold Gen.pkb_apply_transaction pkbApplyTx
  cases isCoinbase with
  | true => simp [pkb_loop1_eq, okOf, bind, Except.bind, pure, Except.pure]
  | false =>
    rcases okOf_eq_cases (pkb_loop0_eq (t.id C) u t.tx.inputs pkb) with ⟨e, e', h1, h2⟩ | ⟨m, h1, h2⟩ <;>
      simp [h1, h2, pkb_loop1_eq, okOf, bind, Except.bind, pure, Except.pure]

end GenTie
