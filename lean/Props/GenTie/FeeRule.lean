import Model.Consensus
import Gen.TransactionFee

/-!
GenTie.FeeRule — `get_transaction_fee`, translated from the current source over declared atoms (the values of the spent outputs,
the values of the created outputs), is the model's `txFee`: what the inputs bring **minus** what the outputs take, as a signed
number (a transaction that overspends has a negative fee; that is refused elsewhere).
-/

namespace GenTie
open Model

theorem transaction_fee_eq (ins outs : List Nat) :
    Gen.transaction_fee ins outs = (ins.sum : Int) - (outs.sum : Int) := by
  fun_cases Gen.transaction_fee ins outs
  omega

theorem inputsValue_eq_mapM (u : Utxo) (inputs : List Input) :
    inputsValue u inputs =
      match inputs.mapM (fun i => (u.get? i.ref).map (·.value)) with
      | some vals => .ok vals.sum
      | none => .error (.key "fee: missing output") := by
  induction inputs with
  | nil => rfl
  | cons i rest ih =>
    rw [inputsValue, List.mapM_cons, ih]
    cases u.get? i.ref with
    | none => rfl
    | some o => cases rest.mapM (fun i => (u.get? i.ref).map (·.value)) <;> rfl

/-- the model's fee is the translated function on *any* list of naturals with the sum the model computes (the list is not
tied to the inputs; `model_fee_as_translated` is the statement over the looked-up values) -/
theorem model_fee_as_translated_of_sum (u : Utxo) (t : CTx) (total : Nat) (h : inputsValue u t.tx.inputs = .ok total)
    (ins : List Nat) (hins : ins.sum = total) :
    txFee u t = .ok (Gen.transaction_fee ins (t.tx.outputs.map (·.value))) := by
  rw [txFee, h, transaction_fee_eq, hins]
  rfl

/-- the model's fee of a transaction is the translated function applied to **the values the model looks up**: `vals` is
exactly the list of the values of the outputs spent by the inputs of `t`, found in the unspent set `u`, in input order (the
hypothesis `h` determines `vals`; it holds for some `vals` whenever every input's spent output is in `u`), and the second
argument is the list of the values of the outputs of `t`, in order -/
theorem model_fee_as_translated (u : Utxo) (t : CTx) (vals : List Nat)
    (h : t.tx.inputs.mapM (fun i => (u.get? i.ref).map (·.value)) = some vals) :
    txFee u t = .ok (Gen.transaction_fee vals (t.tx.outputs.map (·.value))) :=
  model_fee_as_translated_of_sum u t vals.sum (by rw [inputsValue_eq_mapM, h]) vals rfl

/-- and the model's fee is defined exactly when all those values are found; otherwise it is the `KeyError` of the look-up -/
theorem model_fee_defined_iff (u : Utxo) (t : CTx) :
    (∃ f, txFee u t = .ok f) ↔ ∃ vals, t.tx.inputs.mapM (fun i => (u.get? i.ref).map (·.value)) = some vals := by
  rw [txFee, inputsValue_eq_mapM]
  cases t.tx.inputs.mapM (fun i => (u.get? i.ref).map (·.value)) with
  | none => exact ⟨nofun, nofun⟩
  | some vals => exact ⟨fun _ => ⟨vals, rfl⟩, fun _ => ⟨_, rfl⟩⟩

end GenTie
