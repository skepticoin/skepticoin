import Model.Node
import Gen.PoolCleanup

/-!
GenTie.PoolCleanupRule — `ChainManager._cleanup_transaction_pool_for_coinstate`, regenerated: the nested `is_valid` (a `try` around
the in-state validation at the manager's own head, whose only handler turns a `ValidateTransactionError` into `False`) and the
comprehension that re-assigns the pool as the selection, in order, of the transactions for which it returns `True`.

* `is_valid` keeps a transaction exactly when its validation at the head returns, drops it exactly on a
  `ValidateTransactionError`, and lets every other exception out;
* the model's `cleanupPool` (C13's theorems are about it) is that selection whenever no validation ends with another exception —
  the model's totalisation ("another exception evicts") is confined to the case in which the Python does not return at all, and
  that case is characterised;
* the validation is made at the manager's own state (`self.coinstate`), which `set_coinstate` has assigned before the clean-up
  (`GenTie.PoolRule`).
-/

namespace GenTie.PoolCleanup
open Model Gen

theorem is_valid_closed_form (v : ValEnd) :
    pool_is_valid true v = (match v with | .returns => some true | .validateTransactionError => some false | .otherError => none) ∧
    pool_is_valid false v = none := by
  cases v <;> exact ⟨rfl, rfl⟩

theorem reads_own_state : pool_cleanup_reads = "self.coinstate" := by decide

variable (C : Crypto)

/-- how the model's validation of a pending transaction at the head ends, in the translated function's terms -/
def endOf (cs : CoinState) (t : CTx) : ValEnd :=
  match validateTxAtHead C cs t with
  | .ok _ => .returns
  | .error (.validation _) => .validateTransactionError
  | .error _ => .otherError

def select (pool : List CTx) (keep : List Bool) : List CTx := ((pool.zip keep).filter (·.2)).map (·.1)

theorem cleanup_eq (vs : List ValEnd) :
    pool_cleanup true vs = if .otherError ∈ vs then none else some (vs.map fun v => decide (v = .returns)) := by
  induction vs with
  | nil => rfl
  | cons v vs ih =>
    rw [pool_cleanup] at ih ⊢
    rw [List.mapM_cons, ih]
    cases v <;> by_cases h : ValEnd.otherError ∈ vs <;> simp [pool_is_valid, h]

theorem select_map (pool : List CTx) (f : CTx → Bool) : select pool (pool.map f) = pool.filter f := by
  induction pool with
  | nil => rfl
  | cons t ts ih =>
    unfold select at ih ⊢
    cases h : f t <;> simp [h, ih]

/-- an exception leaves the clean-up exactly when some pending transaction's validation ends with something else than a
`ValidateTransactionError` -/
theorem cleanup_escapes_iff (cs : CoinState) (pool : List CTx) :
    pool_cleanup true (pool.map (endOf C cs)) = none ↔ ∃ t ∈ pool, endOf C cs t = .otherError := by
  rw [cleanup_eq]
  simp [List.mem_map]

/-- … and keeps exactly the transactions whose validation at the new head returns, in their old order -/
theorem translated_selection_is_validity_filter (cs : CoinState) (pool : List CTx) (keep : List Bool)
    (h : pool_cleanup true (pool.map (endOf C cs)) = some keep) :
    select pool keep = pool.filter (fun t => decide (endOf C cs t = .returns)) := by
  rw [cleanup_eq] at h
  split at h
  · cases h
  · cases h
    rw [List.map_map]
    exact select_map pool _

theorem model_cleanup_is_validity_filter (cs : CoinState) (pool : List CTx) :
    cleanupPool C cs pool = pool.filter (fun t => decide (endOf C cs t = .returns)) := by
  unfold cleanupPool
  apply List.filter_congr
  intro t _
  unfold endOf
  cases validateTxAtHead C cs t with
  | ok u => simp
  | error e => cases e <;> simp

/-- otherwise the model's clean-up is the translated selection -/
theorem model_cleanup_as_translated (cs : CoinState) (pool : List CTx) (keep : List Bool)
    (h : pool_cleanup true (pool.map (endOf C cs)) = some keep) :
    cleanupPool C cs pool = select pool keep := by
  rw [model_cleanup_is_validity_filter, translated_selection_is_validity_filter C cs pool keep h]

end GenTie.PoolCleanup
