import Model.Ledger
import Proofs.Map
import Gen.AddBlockNv
import Gen.HeadSwitches
import Model.Spec
import Props.GenTie.Head

/-!
GenTie.AddBlockNvRule — `CoinState.add_block_no_validation`, translated from the current source statement by statement as a program
over the model's maps (look-ups are partial, `.set` returns a new map, the tips map is threaded through the `with
self.heads.mutate()` block: the parent leaves the tips exactly when it is one, the new block enters), is the model's
`addBlockNoValidation` (results compared up to the text of an error). The statement that chooses the new head is the parameter
`choose`; instantiated with the translated `Gen.head_switches` it is the model's choice.
-/

namespace GenTie
open Model

-- `Except.toOption`, as `okOf` in BalancesRule
def okOf' {α : Type} (x : Except Err α) : Option α := match x with | .ok a => some a | .error _ => none

-- the parameter `C` is not used (the generated update is handed `chooseTranslated C`)
set_option linter.unusedVariables false in
/-- the head-choice statement with the translated decision `Gen.head_switches` -/
def chooseTranslated (C : Crypto) (cs : CoinState) (id : Bytes) (b : Block) : Except Err Bytes :=
  match cs.current with
  | none => pure (if Gen.head_switches true false b.height b.target 0 [] then id else id)
  | some c =>
    if c = b.prev then pure (if Gen.head_switches false true b.height b.target 0 [] then id else c)
    else match cs.blocks.get? c with
      | none => throw (.key "current head")
      | some cb => pure (if Gen.head_switches false false b.height b.target cb.height cb.target then id else c)

theorem okOf'_bind {α β : Type} {x y : Except Err α} {f g : α → Except Err β} (h : okOf' x = okOf' y)
    (hf : ∀ a, okOf' (f a) = okOf' (g a)) : okOf' (x >>= f) = okOf' (y >>= g) := by
  cases x <;> cases y <;> cases h
  · rfl
  · exact hf _

theorem chooseTranslated_eq (C : Crypto) (cs : CoinState) (b : Block) :
    chooseTranslated C cs (b.id C) b = headWith C cs b := by
  unfold chooseTranslated headWith
  simp only [head_switches_eq, Bool.true_or, Bool.or_true, Bool.false_or, if_true, ite_self, decide_eq_true_eq]
  rfl

theorem add_block_no_validation_eq (C : Crypto) (cs : CoinState) (b : Block) :
    okOf' (Gen.add_block_no_validation C (chooseTranslated C) cs b) = okOf' (addBlockNoValidation C cs b) := by
  -- step by step along the model's sequence: parent's unspent set, application, by-height index, (tips,) head
  rw [addBlockNoValidation_eq]
  unfold Gen.add_block_no_validation
  dsimp only
  refine okOf'_bind ?_ fun u₀ => okOf'_bind rfl fun u => okOf'_bind ?_ fun idx => ?_
  · unfold parentUtxo
    by_cases hz : b.prev = zeros 32
    · simp only [hz, decide_true, if_true]
    · simp only [hz, decide_false, Bool.false_eq_true, if_false]
      cases cs.utxoAt.get? b.prev <;> rfl
  · unfold indexWith
    by_cases hz : b.prev = zeros 32
    · simp only [hz, decide_true, if_true]
    · simp only [hz, decide_false, Bool.false_eq_true, if_false]
      cases cs.byHeightAt.get? b.prev <;> rfl
  · -- the mutation block of the tips never raises: the parent is deleted exactly when it is a tip
    unfold headsWith
    cases cs.heads.contains b.prev <;> simp only [if_true, if_false, Bool.false_eq_true, pure_bind] <;>
      exact okOf'_bind (congrArg okOf' (chooseTranslated_eq C cs b)) fun cur => rfl

/-- a whole arrival history folded with the translated update -/
def foldTranslated (C : Crypto) : CoinState → List Block → Except Err CoinState
  | cs, [] => .ok cs
  | cs, b :: rest =>
    match Gen.add_block_no_validation C (chooseTranslated C) cs b with
    | .error e => .error e
    | .ok cs' => foldTranslated C cs' rest

/-- … is the model's `foldBlocks`: every theorem of C03 / C04 / C10 about states built by `foldBlocks` from an arrival history is
a theorem about the states the code's own update builds from it -/
theorem foldTranslated_eq (C : Crypto) (bs : List Block) : ∀ cs : CoinState,
    okOf' (foldTranslated C cs bs) = okOf' (foldBlocks C cs bs) := by
  induction bs with
  | nil => intro cs; rfl
  | cons b rest ih =>
    intro cs
    have h := add_block_no_validation_eq C cs b
    rw [foldTranslated, foldBlocks]
    cases hx : Gen.add_block_no_validation C (chooseTranslated C) cs b <;> cases hy : addBlockNoValidation C cs b <;>
      rw [hx, hy] at h <;> cases h
    · rfl
    · exact ih _

end GenTie
