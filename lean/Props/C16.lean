import Model.Params
import Gen.Params
/-!
# C16 — the monetary schedule matches the documented parameters

All statements are about `Model.subsidy Gen.params`, i.e. about the constants regenerated from
/repo on this run; `GenTie.get_block_subsidy_eq` identifies it with the code's
`get_block_subsidy` as translated on this run, and `Props/C16Code.lean` restates the theorems for
`Gen.get_block_subsidy` / `Gen.validate_sashimi_range`.
-/

namespace Model
namespace C16

abbrev P : Params := Gen.params

/-- the subsidy is 10 coin halved by integer division every 1,050,000 blocks -/
theorem subsidy_formula (h : Nat) : subsidy P h = 10 * 100000000 / 2 ^ (h / 1050000) := by
  have hI : P.halvingInterval = 1050000 := by decide
  have hS : P.initialSubsidy = 1000000000 := by decide
  unfold subsidy
  rw [hI, hS]
  simp only
  split
  · -- from 64 halvings on the code returns 0 outright; the quotient is 0 there as well
    rename_i hk
    symm
    apply Nat.div_eq_of_lt
    have : 2 ^ 64 ≤ 2 ^ (h / 1050000) := Nat.pow_le_pow_right (by omega) hk
    omega
  · rfl

theorem subsidy_first_era (h : Nat) (hh : h < 1050000) : subsidy P h = 10 * 100000000 := by
  rw [subsidy_formula, Nat.div_eq_of_lt hh]

theorem subsidy_halves (h : Nat) : subsidy P (h + 1050000) = subsidy P h / 2 := by
  rw [subsidy_formula, subsidy_formula]
  have : (h + 1050000) / 1050000 = h / 1050000 + 1 := by omega
  rw [this, Nat.pow_succ, Nat.div_div_eq_div_mul]

/-- never increases with height -/
theorem subsidy_antitone (h h' : Nat) (hle : h ≤ h') : subsidy P h' ≤ subsidy P h := by
  rw [subsidy_formula, subsidy_formula]
  apply Nat.div_le_div_left
  · exact Nat.pow_le_pow_right (by omega) (Nat.div_le_div_right hle)
  · exact Nat.pow_pos (by omega)

/-- zero from the point where halving exhausts it … -/
theorem subsidy_zero (h : Nat) (hh : 31500000 ≤ h) : subsidy P h = 0 := by
  rw [subsidy_formula]
  apply Nat.div_eq_of_lt
  have hk : 30 ≤ h / 1050000 := by omega
  have : 2 ^ 30 ≤ 2 ^ (h / 1050000) := Nat.pow_le_pow_right (by omega) hk
  omega

/-- … and positive before it -/
theorem subsidy_pos (h : Nat) (hh : h < 31500000) : 0 < subsidy P h := by
  rw [subsidy_formula]
  apply Nat.div_pos
  · have hk : h / 1050000 ≤ 29 := by omega
    have : 2 ^ (h / 1050000) ≤ 2 ^ 29 := Nat.pow_le_pow_right (by omega) hk
    omega
  · exact Nat.pow_pos (by omega)

/-- cumulative issuance: the sum of the subsidy over heights `0 … n-1` -/
def supply : Nat → Nat
  | 0 => 0
  | n + 1 => supply n + subsidy P n

theorem supply_mono {a b : Nat} (h : a ≤ b) : supply a ≤ supply b := by
  induction h with
  | refl => exact Nat.le_refl _
  | step _ ih => exact Nat.le_trans ih (Nat.le_add_right _ _)

theorem supply_add_const (a c m : Nat) (h : ∀ j < m, subsidy P (a + j) = c) :
    supply (a + m) = supply a + m * c := by
  induction m with
  | zero => simp
  | succ m ih =>
    have e : a + (m + 1) = (a + m) + 1 := by omega
    rw [e, supply, ih (fun j hj => h j (by omega)), h m (by omega), Nat.succ_mul]
    omega

/-- the issuance of the first `k` eras by the closed formula -/
def eraTotal : Nat → Nat
  | 0 => 0
  | k + 1 => eraTotal k + 1050000 * (10 * 100000000 / 2 ^ k)

/-- the issuance of era `k` is 1,050,000 blocks at the era's constant subsidy -/
theorem era_sum (k : Nat) :
    supply ((k + 1) * 1050000) = supply (k * 1050000) + 1050000 * (10 * 100000000 / 2 ^ k) := by
  have e : (k + 1) * 1050000 = k * 1050000 + 1050000 := by omega
  rw [e]
  apply supply_add_const
  intro j hj
  rw [subsidy_formula]
  have : (k * 1050000 + j) / 1050000 = k := by omega
  rw [this]

theorem supply_eras (k : Nat) : supply (k * 1050000) = eraTotal k := by
  induction k with
  | zero => simp [supply, eraTotal]
  | succ k ih => rw [era_sum, ih, eraTotal]

/-- summed over all heights the subsidy is exactly 2,099,999,986,350,000 sashimi
(20,999,999.8635 coin), for every horizon at or beyond the exhaustion point -/
theorem total_supply (n : Nat) (hn : 31500000 ≤ n) : supply n = 2099999986350000 := by
  have e : n = 30 * 1050000 + (n - 31500000) := by omega
  rw [e, supply_add_const (30 * 1050000) 0 (n - 31500000)
    (fun j _ => subsidy_zero _ (by omega)), supply_eras, Nat.mul_zero, Nat.add_zero]
  decide

/-- the cumulative issuance never exceeds the maximum at any height -/
theorem supply_le_max (n : Nat) : supply n ≤ 2099999986350000 := by
  by_cases h : 31500000 ≤ n
  · rw [total_supply n h]; exact Nat.le_refl _
  · exact total_supply 31500000 (Nat.le_refl _) ▸ supply_mono (Nat.le_of_not_le h)

/-- that number is the upper limit the validator places on any amount -/
theorem limit_is_supply : P.maxSashimi = supply 31500000 := by
  rw [total_supply 31500000 (Nat.le_refl _)]; decide

theorem validator_limit (v : Nat) :
    sashimiInRange P v = decide (0 < v ∧ v ≤ supply 31500000) := by
  rw [← limit_is_supply]; rfl

example : subsidy P 0 = 1000000000 ∧ subsidy P 1049999 = 1000000000 ∧ subsidy P 1050000 = 500000000
    ∧ subsidy P 31499999 = 1 ∧ subsidy P 31500000 = 0 := by
  refine ⟨?_, ?_, ?_, ?_, ?_⟩ <;> rw [subsidy_formula] <;> decide

end C16
end Model
