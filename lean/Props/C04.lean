import Proofs.Built

/-!
# C04 — fork choice: the head is the first-seen block of greatest total work (height)

`foldBlocks C .empty bs = .ok s`: the blocks of `bs` arrived in that order through
`CoinState.add_block_no_validation` and none of the additions raised. What such a state holds is a field of `Hist`
(`Proofs/Built.lean`, by the induction `hist` over `WFArrivals`): `blocks`, `current`, `heads`, `index`; `index_is_ancestors`
adds what a block's chain looks like as a list (`chainOf_facts`). `head_stable_on_ties` is about one
`addBlockNoValidation` step (`add_ok_current`, `headWith_other`).
-/

namespace Model
namespace C04

variable (C : Crypto)

/-- every arrived block is stored under its id, and nothing else is -/
theorem blocks_are_history (bs : List Block) (s : CoinState) (hwf : WFArrivals C bs)
    (hf : foldBlocks C .empty bs = .ok s) (id : Bytes) (b : Block) :
    s.blocks.get? id = some b ↔ (b ∈ bs ∧ b.id C = id) := by
  rw [(hist C hwf hf).blocks, findBlock_eq_some C (hwf.facts C)]

/-- the active head is the earliest-arrived block among those of greatest height -/
theorem head_is_first_max (bs : List Block) (s : CoinState) (hwf : WFArrivals C bs)
    (hf : foldBlocks C .empty bs = .ok s) :
    s.current = (firstMax bs).map (·.id C) :=
  (hist C hwf hf).current

/-- so the head never switches between equally good tips: a block that is not higher than the
current head and does not extend it leaves the head where it is -/
theorem head_stable_on_ties (cs cs' : CoinState) (b hd : Block) (c : Bytes)
    (hc : cs.current = some c) (hh : cs.blocks.get? c = some hd) (hne : c ≠ b.prev)
    (hle : b.height ≤ hd.height) (ha : addBlockNoValidation C cs b = .ok cs') :
    cs'.current = some c := by
  obtain ⟨cur, hcur, hc'⟩ := add_ok_current C ha
  obtain ⟨cb, hcb, rfl⟩ := (headWith_other C hc hne).1 hcur
  rw [hh] at hcb
  cases hcb
  rw [hc', if_neg (by omega)]

/-- the reported tips are exactly the stored blocks without stored children -/
theorem heads_are_leaves (bs : List Block) (s : CoinState) (hwf : WFArrivals C bs)
    (hf : foldBlocks C .empty bs = .ok s) (id : Bytes) :
    s.heads.contains id = true ↔ (∃ b ∈ bs, b.id C = id ∧ ∀ c ∈ bs, c.prev ≠ id) :=
  (hist C hwf hf).heads id

/-- the by-height index at every block lists exactly that block's ancestors and itself -/
theorem index_is_ancestors (bs : List Block) (s : CoinState) (hwf : WFArrivals C bs)
    (hf : foldBlocks C .empty bs = .ok s) (b : Block) (hb : b ∈ bs) (h : Nat) (a : Block) :
    ((s.byHeightAt.get? (b.id C)).bind (·.get? h) = some a) ↔
      (a ∈ chainOf C bs bs.length b ∧ a.height = h) := by
  obtain ⟨idx, hidx, hget⟩ := (hist C hwf hf).index b hb
  have K := chainOf_facts C hwf b hb
  rw [hidx, Option.bind_some, hget]
  constructor
  · exact fun e => ⟨List.mem_of_getElem? e, K.height h a e⟩
  · rintro ⟨hm, rfl⟩
    obtain ⟨i, hi⟩ := List.mem_iff_getElem?.1 hm
    rw [K.height i a hi, hi]

/-! ## non-vacuity: the hypotheses `WFArrivals C bs` and `foldBlocks C .empty bs = .ok s` are
satisfiable -/

/-- for every `Crypto` there is a well-formed two-block history (a genesis block and a child,
both carrying cached hashes as blocks read from the wire or the block store do) whose arrivals
all succeed -/
example : ∃ (bs : List Block) (s : CoinState),
    WFArrivals C bs ∧ foldBlocks C .empty bs = .ok s ∧ bs.length = 2 := by
  let cb : CTx := ⟨⟨[], [⟨10, [5]⟩]⟩, some [7]⟩
  let g : Block := ⟨⟨⟨0, zeros 32, [], 0, [], 0⟩, ⟨[], [], []⟩⟩, [cb], some [1]⟩
  let b₁ : Block := ⟨⟨⟨1, [1], [], 0, [], 0⟩, ⟨[], [], []⟩⟩, [cb], some [2]⟩
  exact ⟨[g, b₁], _, .of_decide C rfl, rfl, rfl⟩

/-- a concrete `Crypto` instance and a genesis block without cached hash -/
example : ∃ (bs : List Block) (s : CoinState),
    WFArrivals ⟨fun _ => [1], fun _ => [], fun _ _ => [], fun _ _ _ => true⟩ bs ∧
    foldBlocks ⟨fun _ => [1], fun _ => [], fun _ _ => [], fun _ _ _ => true⟩ .empty bs = .ok s := by
  let g : Block := ⟨⟨⟨0, zeros 32, [], 0, [], 0⟩, ⟨[], [], []⟩⟩, [⟨⟨[], [⟨10, [5]⟩]⟩, none⟩], none⟩
  exact ⟨[g], _, .genesis g rfl rfl (by decide), rfl⟩

end C04
end Model
