import Proofs.Validation
import Props.C07

/-!
# C01 — no unauthorised or double spending in any fully validated block

`addBlock C P cs b now = .ok cs'` is `CoinState.add_block` returning normally; "above the
checkpoint horizon" is `P.maxKnownHeight < b.height`. `u` is the unspent-output map of the
block's *parent*; `cb :: rest` are the reward transaction and the others.
-/

namespace Model
namespace C01

variable (C : Crypto) (P : Params)

/-- every non-reward transaction of an accepted block spends only outputs that exist and are
unspent in the ledger state of the block's parent, each with a signature of the secp256k1
kind that verifies under the spent output's public key over the transaction with its
signatures blanked -/
theorem accepted_spends_exist_and_are_signed (cs cs' : CoinState) (b : Block) (now : Int)
    (h : addBlock C P cs b now = .ok cs') (hz : P.maxKnownHeight < b.height) :
    ∃ u cb rest, cs.utxoAt.get? b.prev = some u ∧ b.txs = cb :: rest ∧
      ∀ t ∈ rest, ∀ i ∈ t.tx.inputs, ∃ o s, u.get? i.ref = some o ∧ i.sig = .secp s ∧
        C.verify o.pk (encTx (signable t.tx)) s = true := by
  obtain ⟨u, cb, rest, fees, hu, htx, _, _, hall⟩ := ((addBlock_accepted h).2.1 hz).ledger
  refine ⟨u, cb, rest, hu, htx, ?_⟩
  intro t ht
  obtain ⟨_, hs, _, _⟩ := validateTxInState_of_ok (hall t ht)
  exact hs

/-- no output is spent twice inside the block (within one transaction or across transactions),
and no spend is the null reference -/
theorem no_double_spend_in_block (cs cs' : CoinState) (b : Block) (now : Int)
    (h : addBlock C P cs b now = .ok cs') :
    ∃ cb rest, b.txs = cb :: rest ∧ (allRefs rest).Nodup ∧
      ∀ t ∈ rest, ∀ i ∈ t.tx.inputs, i.ref ≠ thinAir := by
  obtain ⟨cb, rest, htx, _, hall, _, hrefs⟩ := (addBlock_accepted h).1.nonempty
  refine ⟨cb, rest, htx, hrefs, ?_⟩
  exact fun t ht => ((validateTxByItself_ok P t).mp (hall t ht)).notThinAir

/-- validation consults the parent's map only: a reference that resolves nowhere but in this
very block's outputs (it is absent from the parent's unspent set) makes the block unacceptable -/
theorem created_in_block_not_spendable (cs : CoinState) (b : Block) (now : Int) (u : Utxo)
    (hz : P.maxKnownHeight < b.height) (hu : cs.utxoAt.get? b.prev = some u)
    (t : CTx) (ht : t ∈ b.txs.tail) (i : Input) (hi : i ∈ t.tx.inputs) (hnone : u.get? i.ref = none) :
    ∀ cs', addBlock C P cs b now ≠ .ok cs' := by
  intro cs' h
  obtain ⟨u', cb, rest, hu', htx, hall⟩ := accepted_spends_exist_and_are_signed C P cs cs' b now h hz
  rw [hu] at hu'
  cases hu'
  rw [htx] at ht
  obtain ⟨o, _, ho, _⟩ := hall t ht i hi
  rw [hnone] at ho
  cases ho

/-- an already spent output (absent from the parent's set), an output of another fork (absent
from the parent's set) and a missing output are the same case: `u.get? = none` — rejected -/
theorem missing_or_spent_or_other_fork_rejected (cs : CoinState) (b : Block) (now : Int) (u : Utxo)
    (hz : P.maxKnownHeight < b.height) (hu : cs.utxoAt.get? b.prev = some u)
    (h : ∃ t ∈ b.txs.tail, ∃ i ∈ t.tx.inputs, u.get? i.ref = none) :
    ∀ cs', addBlock C P cs b now ≠ .ok cs' := by
  obtain ⟨t, ht, i, hi, hn⟩ := h
  exact created_in_block_not_spendable C P cs b now u hz hu t ht i hi hn

/-- a placeholder object where a signature belongs is rejected -/
theorem placeholder_signature_rejected (cs : CoinState) (b : Block) (now : Int)
    (h : ∃ t ∈ b.txs.tail, ∃ i ∈ t.tx.inputs, i.sig.isSecp = false) :
    ∀ cs', addBlock C P cs b now ≠ .ok cs' := by
  intro cs' ha
  obtain ⟨t, ht, i, hi, hs⟩ := h
  obtain ⟨cb, rest, htx, _, hall, _, _⟩ := (addBlock_accepted ha).1.nonempty
  rw [htx] at ht
  exact absurd (((validateTxByItself_ok P t).mp (hall t ht)).secp i hi) (by rw [hs]; exact Bool.false_ne_true)

/-- the signed message covers the transaction's complete list of spent references and its
outputs: two (well-formed) transactions with the same signed message have the same references in
the same order and the same outputs — so neither can be changed after signing -/
theorem signable_covers (t t' : Tx) (hw : t.WF) (hw' : t'.WF)
    (h : encTx (signable t) = encTx (signable t')) :
    t.inputs.map (·.ref) = t'.inputs.map (·.ref) ∧ t.outputs = t'.outputs := by
  have wf : ∀ x : Tx, x.WF → (signable x).WF := by
    intro x hx
    refine ⟨?_, hx.2⟩
    intro i hi
    simp only [signable, List.mem_map] at hi
    obtain ⟨j, hj, rfl⟩ := hi
    exact ⟨(hx.1 j hj).1, trivial⟩
  have e := Codec.enc_injective C07.transaction_roundtrip (signable t) (signable t') (wf t hw) (wf t' hw') h
  simp only [signable, Tx.mk.injEq] at e
  obtain ⟨e1, e2⟩ := e
  refine ⟨?_, e2⟩
  have := congrArg (List.map (·.ref)) e1
  simpa [List.map_map, Function.comp_def] using this

/-! ## non-vacuity -/

example : (signable ⟨[⟨⟨zeros 32, 1⟩, .secp (zeros 64)⟩], []⟩).inputs = [⟨⟨zeros 32, 1⟩, .signable⟩] := rfl

end C01
end Model
