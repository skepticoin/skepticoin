import Proofs.Contain
import Props.C09

/-!
# C20 — malformed input from a peer is contained to that connection

`handleEvent C P n c ev now` is `LocalPeer.handle_remote_peer_selector_event` for something read
on connection `c`, with its catch-all: the result is always a node (no exception escapes, the
event loop goes on). Per message: valid messages earlier in a stream have their legitimate
effects; the claim is about each message whose handling raises or that is rejected.
-/

namespace Model

/-- the fourth of the `…_local` lemmas of Proofs/Contain; it stands here because it needs `C09.Inv` (an unsolicited block
that is refused changes connection `c` only) -/
theorem handleMessage_rejected_block_local (C : Crypto) (P : Params) (n : Node) (c i : Nat) (b : Block)
    (now : Int) (hinv : C09.Inv C P n) (hrej : ∀ cs', addBlock C P n.mgr.coinstate b now ≠ .ok cs') :
    EqExceptAt c (handleMessage C P n c i 0 (.dataBlock b) now).1 n := by
  rcases handleMessage_cases C P n c i 0 (.dataBlock b) now with h | ⟨b', hb, h⟩ | ⟨_, _, ht, _⟩
  · exact h
  · cases hb
    rw [h]
    rcases C09.handleBlockReceived_unsolicited C P n c b now hinv with h' | ⟨changed, _, _, hok, _⟩
    · rw [h']; exact EqExceptAt.updatePeer_self n c _
    · exact absurd hok (hrej changed)
  · cases ht

namespace C20

variable (C : Crypto) (P : Params)

/-- chain state, last validated state, pending pool, write buffer and store are unchanged and every
other connection is exactly as it was (flags, queue); of connection `c` itself nothing is said (it
may have been closed, or answered) -/
def Contained (n n' : Node) (c : Nat) : Prop :=
  n'.mgr.coinstate = n.mgr.coinstate ∧ n'.mgr.pool = n.mgr.pool ∧ n'.mgr.lastValid = n.mgr.lastValid ∧
  n'.wbuf = n.wbuf ∧ n'.disk = n.disk ∧ n'.peers.length = n.peers.length ∧
  ∀ j, j ≠ c → n'.peers[j]? = n.peers[j]?

/-- broken framing, an undecodable payload, a remote close -/
theorem garbage_contained (n : Node) (c : Nat) (now : Int) (ev : Incoming)
    (hev : match ev with | .msg _ _ _ => False | _ => True) :
    Contained n (handleEvent C P n c ev now) c :=
  (handleEvent_local C P n c ev now fun i r m h => by rw [h] at hev; exact hev.elim).contained

/-- a message whose handling raises — unknown data types, out of protocol order, oversized
inventories, an error while applying a block, … — whatever the handler did before raising -/
theorem raising_message_contained (n : Node) (c : Nat) (i r : Nat) (m : InMsg) (now : Int) (e : Err)
    (hinv : C09.Inv C P n) (hr : r = 0 ∨ ∀ b, m ≠ .dataBlock b)
    (herr : (handleMessage C P n c i r m now).2 = some e) :
    Contained n (handleEvent C P n c (.msg i r m) now) c := by
  have _ := hinv; have _ := hr -- not needed: an escaping exception never follows a state change
  exact (handleEvent_msg_local C P n c i r m now (handleMessage_err_local C P n c i r m now e herr)).contained

/-- a structurally invalid or rule-violating block delivered outside bulk download is rejected
without raising and equally contained -/
theorem rejected_block_contained (n : Node) (c : Nat) (i : Nat) (b : Block) (now : Int)
    (hinv : C09.Inv C P n) (hp : ∃ p, n.peers[c]? = some p ∧ p.helloReceived = true)
    (hrej : ∀ cs', addBlock C P n.mgr.coinstate b now ≠ .ok cs') :
    Contained n (handleEvent C P n c (.msg i 0 (.dataBlock b)) now) c := by
  have _ := hp -- not needed: before the greeting the message raises, which is contained as well
  exact (handleEvent_msg_local C P n c i 0 _ now
    (handleMessage_rejected_block_local C P n c i b now hinv hrej)).contained

/-- an invalid or conflicting transaction is not admitted and nothing else changes -/
theorem rejected_transaction_contained (n : Node) (c : Nat) (i r : Nat) (t : CTx) (now : Int)
    (hrej : ∀ m', addTxToPool C P n.mgr t ≠ .ok (m', true)) :
    Contained n (handleEvent C P n c (.msg i r (.dataTx t)) now) c :=
  (handleEvent_msg_local C P n c i r _ now (handleMessage_rejected_tx_local C P n c i r t now hrej)).contained

/-- messages that only concern the connection they arrive on (greeting, block and peer
queries, inventories) never touch chain state, pool or store, nor any other connection -/
theorem protocol_messages_local (n : Node) (c : Nat) (i r : Nat) (m : InMsg) (now : Int)
    (hm : match m with | .dataBlock _ => False | .dataTx _ => False | _ => True) :
    Contained n (handleEvent C P n c (.msg i r m) now) c :=
  (handleEvent_msg_local C P n c i r m now (handleMessage_protocol_local C P n c i r m now hm)).contained

/-- a greeted peer on both connections of a node with an empty chain state -/
private def exPeer : PeerSt := ⟨true, false, true, true, [], false, []⟩
private def exNode : Node := ⟨⟨CoinState.empty, [], some CoinState.empty⟩, [], [], [exPeer, exPeer], 7⟩

/-- garbage on connection 0: that connection is closed, connection 1 is exactly as it was -/
example :
    Contained exNode (handleEvent C P exNode 0 .undecodable 0) 0 ∧
    (handleEvent C P exNode 0 .undecodable 0).peers[1]? = some exPeer ∧
    (handleEvent C P exNode 0 .undecodable 0).peers[0]? = some { exPeer with open_ := false } :=
  ⟨garbage_contained C P exNode 0 0 .undecodable trivial, rfl, rfl⟩

/-- the hypotheses of `raising_message_contained` are satisfiable: `Data(header)` raises -/
example : Contained exNode (handleEvent C P exNode 0 (.msg 1 0 .dataHeader) 0) 0 ∧
    (handleEvent C P exNode 0 (.msg 1 0 .dataHeader) 0).peers[0]? = some { exPeer with open_ := false } :=
  ⟨raising_message_contained C P exNode 0 1 0 .dataHeader 0 (.other "NotImplementedError")
    ⟨rfl, rfl, ⟨fun _ ht => (nomatch ht), List.nodup_nil⟩⟩ (.inl rfl) rfl, rfl⟩

end C20
end Model
