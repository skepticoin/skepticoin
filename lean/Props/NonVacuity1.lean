import Props.C06
import Props.C12Reach
import Props.Toy

/-!
# Non-vacuity of the hypotheses of C06, C12, C12Reach, C13

For every theorem of these files that has hypotheses, a concrete instance is exhibited that meets
all hypotheses simultaneously; the theorem is then *applied* to that instance (so the instance is
checked against the exact statement), and — where cheap — the conclusion is shown to be
non-trivially true on it (a pool that really holds transactions, a block that really is adopted).

The instance: a toy `Crypto` with 32-byte, non-constant hashes (so that the well-formedness
side conditions of C06 hold), small `Params`, a history `G ← A`, two pending transactions `t1`,
`t2` spending the rewards of `G` and `A`, and the block the miner assembles from them.
Concrete facts about the executable model are closed by kernel evaluation (`decide +kernel`).
-/

namespace NonVacuity1
open Model

/-- the introduction direction of `addTxToPool` (`ChainMgr` has no decidable equality) -/
theorem addTx_intro (C : Crypto) (P : Params) (m : ChainMgr) (t : CTx)
    (h1 : validateTxByItself P t = .ok ()) (h2 : validateTxAtHead C m.coinstate t = .ok ())
    (h3 : (allRefs (m.pool ++ [t])).Nodup) :
    addTxToPool C P m t = .ok ({ m with pool := m.pool ++ [t] }, true) :=
  (addTxToPool_admitted C P m _ t).2 ⟨(poolChecks_ok C P m t).2 ⟨h1, h2, h3⟩, rfl⟩

def hsum (bs : Bytes) : UInt8 := bs.foldl (· + ·) 0
def pad32 (x : UInt8) : Bytes := zeros 31 ++ [x]

/-- 32-byte hashes depending on their input; `sha256d` always lands below the target `pad32 16`;
every signature verifies -/
def nvC : Crypto :=
  ⟨fun bs => pad32 (hsum bs % 16), fun bs => pad32 (hsum bs), fun a b => pad32 (hsum (a ++ b)),
   fun _ _ _ => true⟩

/-- in the order of the fields: `MAX_SASHIMI` 100, block size 1000, 30 s of future, 10 bytes of reward data, retarget
interval and timespan 10, halving interval 10, subsidy 10, 8 samples of 4 bytes, no checkpoint horizon (−1) and an empty
table, inventory batches of 1, `IBD_VALIDATION_SKIP` 5, messages of at most 1000 bytes, and 1 for each of the five
constants of the peer book -/
def nvP : Params := ⟨100, 1000, 30, 10, 10, 10, 10, 10, 8, 4, -1, [], 1, 5, 1000, 1, 1, 1, 1, 1⟩

def tgt : Bytes := pad32 16
def pkA : Bytes := List.replicate 64 5
def pkB : Bytes := List.replicate 64 6

/-- a reward of 10 to `pkA`, cached transaction id `pad32 id` -/
def cb (h : Nat) (id : UInt8) : CTx :=
  ⟨⟨[⟨thinAir, .coinbase h []⟩], [⟨10, pkA⟩]⟩, some (pad32 id)⟩

def G : Block :=
  ⟨⟨⟨0, zeros 32, pad32 70, 0, tgt, 0⟩, ⟨zeros 32, zeros 32, zeros 32⟩⟩, [cb 0 70], some (pad32 101)⟩

def sG : CoinState := getOk (foldBlocks nvC .empty [G]) .empty

def sumA : Summary := ⟨1, pad32 101, pad32 71, 1, tgt, 0⟩
def evA : Evidence := getOk (constructEvidence nvC nvP sG sumA 1 [cb 1 71]) ⟨[], [], []⟩
def A : Block := ⟨⟨sumA, evA⟩, [cb 1 71], some (pad32 102)⟩

/-- the served state: `G ← A`, head `A` -/
def sGA : CoinState := getOk (foldBlocks nvC .empty [G, A]) .empty

/-- spends the reward of `G` (10), pays 7: fee 3 -/
def t1 : CTx := ⟨⟨[⟨⟨pad32 70, 0⟩, .secp (zeros 64)⟩], [⟨7, pkB⟩]⟩, some (pad32 81)⟩
/-- spends the reward of `A` (10), pays 10: fee 0 -/
def t2 : CTx := ⟨⟨[⟨⟨pad32 71, 0⟩, .secp (zeros 64)⟩], [⟨10, pkB⟩]⟩, some (pad32 82)⟩
/-- spends the reward of `G` again (conflicts with `t1`) -/
def t1' : CTx := ⟨⟨[⟨⟨pad32 70, 0⟩, .secp (zeros 64)⟩], [⟨5, pkA⟩]⟩, some (pad32 83)⟩

def m0 : ChainMgr := ⟨sGA, [], none⟩
def m1 : ChainMgr := ⟨sGA, [t1], none⟩
def m2 : ChainMgr := ⟨sGA, [t1, t2], none⟩

theorem foldG : foldBlocks nvC .empty [G] = .ok sG := eq_ok_getOk _ (by decide +kernel)
theorem foldGA : foldBlocks nvC .empty [G, A] = .ok sGA := eq_ok_getOk _ (by decide +kernel)

-- the computed parts of the instance are for the kernel to evaluate; the elaborator is kept from trying
-- (it would run `foldBlocks`, and below the miner, inside unification problems such as `m2.coinstate =?= sGA`)
attribute [local irreducible] evA sG sGA

theorem wfGA : WFArrivals nvC [G, A] := .of_decide _ (by decide +kernel)

/-- `A` was itself accepted by full validation on top of `G` (the state is not hand-made) -/
theorem A_accepted : isOk (addBlock nvC nvP sG A 0) = true := by decide +kernel

/-! ## C13 -/

theorem submit1 : addTxToPool nvC nvP m0 t1 = .ok (m1, true) :=
  addTx_intro nvC nvP m0 t1 (by decide +kernel) (by decide +kernel) (by decide +kernel)

theorem submit2 : addTxToPool nvC nvP m1 t2 = .ok (m2, true) :=
  addTx_intro nvC nvP m1 t2 (by decide +kernel) (by decide +kernel) (by decide +kernel)

/-- valid, but spends an output already spent in the pool -/
theorem submit_conflict : addTxToPool nvC nvP m1 t1' = .ok (m1, false) :=
  (addTxToPool_refused nvC nvP m1 m1 t1').2
    ⟨⟨_, poolChecks_conflict nvC nvP m1 t1' (by decide +kernel) (by decide +kernel) (by decide +kernel)⟩, rfl⟩

/-- `admitted_only_if_valid_and_compatible`: hypothesis met by `m0`, `t1`; the resulting pool is
`[t1]` -/
theorem nonvacuous_admitted_only_if_valid_and_compatible :
    ∃ m m' t, addTxToPool nvC nvP m t = .ok (m', true) ∧ m'.pool = [t1] :=
  ⟨m0, m1, t1, submit1, rfl⟩

example := C13.admitted_only_if_valid_and_compatible nvC nvP m0 m1 t1 submit1

/-- `not_admitted_leaves_pool`: hypothesis met by a double spend against a non-empty pool -/
theorem nonvacuous_not_admitted_leaves_pool :
    ∃ m m' t, addTxToPool nvC nvP m t = .ok (m', false) ∧ m.pool ≠ [] :=
  ⟨m1, m1, t1', submit_conflict, by decide⟩

example := C13.not_admitted_leaves_pool nvC nvP m1 m1 t1' submit_conflict

/-- `invalid_or_conflicting_not_admitted`: each disjunct can be met; here the third (conflict) by a
transaction for which the first two do NOT hold, and the first by a transaction without outputs -/
theorem nonvacuous_invalid_or_conflicting_not_admitted :
    ¬ (allRefs (m1.pool ++ [t1'])).Nodup ∧
    validateTxByItself nvP ⟨⟨t1.tx.inputs, []⟩, none⟩ ≠ .ok () ∧
    validateTxAtHead nvC sGA ⟨⟨[⟨⟨pad32 99, 0⟩, .secp (zeros 64)⟩], [⟨1, pkA⟩]⟩, none⟩ ≠ .ok () :=
  ⟨by decide +kernel, ne_ok_of_not_isOk (by decide +kernel) (), ne_ok_of_not_isOk (by decide +kernel) ()⟩

example := C13.invalid_or_conflicting_not_admitted nvC nvP m1 t1'
  (Or.inr (Or.inr nonvacuous_invalid_or_conflicting_not_admitted.1))

theorem reach_m1 : C13.Reachable nvC nvP m1 := .submit m0 m1 t1 true (.init sGA none) submit1
theorem reach_m2 : C13.Reachable nvC nvP m2 := .submit m1 m2 t2 true reach_m1 submit2

/-- `pool_inv_reachable`: a reachable manager with a pool of two transactions -/
theorem nonvacuous_pool_inv_reachable : ∃ m, C13.Reachable nvC nvP m ∧ m.pool = [t1, t2] :=
  ⟨m2, reach_m2, rfl⟩

theorem poolInv_m1 : C13.PoolInv nvC nvP m1 := C13.pool_inv_reachable nvC nvP m1 reach_m1
theorem poolInv_m2 : C13.PoolInv nvC nvP m2 := C13.pool_inv_reachable nvC nvP m2 reach_m2

/-- `submit_preserves`: invariant on a non-empty pool, admitted submission (and a refused one) -/
theorem nonvacuous_submit_preserves :
    ∃ m m' t r, C13.PoolInv nvC nvP m ∧ addTxToPool nvC nvP m t = .ok (m', r) ∧ m.pool = [t1] ∧
      m'.pool = [t1, t2] :=
  ⟨m1, m2, t2, true, poolInv_m1, submit2, rfl, rfl⟩

example := C13.submit_preserves nvC nvP m1 m2 t2 true poolInv_m1 submit2
example := C13.submit_preserves nvC nvP m1 m1 t1' false poolInv_m1 submit_conflict

/-- `setState_preserves`: pool `[t1, t2]`, head moved back to `G` (a reorganisation): `t2`, which
spends the reward of `A`, is evicted and `t1` stays -/
theorem nonvacuous_setState_preserves :
    ((∀ t ∈ m2.pool, validateTxByItself nvP t = .ok ()) ∧ (allRefs m2.pool).Nodup) ∧
    (setCoinstate nvC m2 sG true).pool = [t1] :=
  ⟨⟨fun t ht => (poolInv_m2.1 t ht).1, poolInv_m2.2⟩, by decide +kernel⟩

example := C13.setState_preserves nvC nvP m2 sG true nonvacuous_setState_preserves.1

/-- a reachable manager after a head change, with a non-empty pool -/
theorem reach_after_reorg : C13.Reachable nvC nvP (setCoinstate nvC m2 sG true) :=
  .setState m2 sG true reach_m2

/-- `no_shared_output`: two distinct positions of a reachable pool, an input of each -/
theorem nonvacuous_no_shared_output :
    ∃ (m : ChainMgr) (t₁ t₂ : CTx) (i₁ i₂ : Input) (n₁ n₂ : Nat), C13.Reachable nvC nvP m ∧ n₁ < n₂ ∧ m.pool[n₁]? = some t₁ ∧
      m.pool[n₂]? = some t₂ ∧ i₁ ∈ t₁.tx.inputs ∧ i₂ ∈ t₂.tx.inputs :=
  ⟨m2, t1, t2, ⟨⟨pad32 70, 0⟩, .secp (zeros 64)⟩, ⟨⟨pad32 71, 0⟩, .secp (zeros 64)⟩, 0, 1,
    reach_m2, by decide, rfl, rfl, List.mem_singleton.2 rfl, List.mem_singleton.2 rfl⟩

example := C13.no_shared_output nvC nvP m2 reach_m2 t1 t2 ⟨⟨pad32 70, 0⟩, .secp (zeros 64)⟩
  ⟨⟨pad32 71, 0⟩, .secp (zeros 64)⟩ 0 1 (by decide) rfl rfl (List.mem_singleton.2 rfl)
  (List.mem_singleton.2 rfl)

/-! ## C12 -/

/-- the miner's candidate from the served state `G ← A` and the pool `[t1, t2]`, clock 5 -/
def cand : Summary × Nat × List CTx :=
  getOk (minerCandidate nvC nvP m2 pkB 5 0) (⟨0, [], [], 0, [], 0⟩, 0, [])
def cS : Summary := cand.1
def cH : Nat := cand.2.1
def cTxs : List CTx := cand.2.2
def cEv : Evidence :=
  getOk (evidenceAfterScrypt nvC nvP sGA (summaryHash nvC cS cH) cS cH cTxs) ⟨[], [], []⟩
/-- the assembled block -/
def B : Block := Block.fresh ⟨cS, cEv⟩ cTxs

/-! `cand` and `cEv` are *computed*. Each is evaluated once, to the value written out here, and every
later evaluation first rewrites `cS`, `cH`, `cTxs`, `cEv`, `B` to these values, so that it does not run
the miner again. -/

/-- the candidate's summary (also with the other timestamps and nonces used below), its transactions (the reward is
subsidy 10 + fee 3), the evidence, the block -/
def cSv (timestamp nonce : Nat) : Summary := ⟨2, pad32 102, pad32 7, timestamp, tgt, nonce⟩
def cTv : List CTx := [CTx.fresh ⟨[⟨thinAir, .coinbase 2 []⟩], [⟨13, pkB⟩]⟩, t1, t2]
def cEvv : Evidence := ⟨pad32 134, zeros 32, pad32 199⟩
def Bv (timestamp nonce : Nat) : Block := Block.fresh ⟨cSv timestamp nonce, cEvv⟩ cTv

theorem cand_val : minerCandidate nvC nvP m2 pkB 5 0 = .ok (cSv 5 0, 2, cTv) := by decide +kernel
theorem cand_eq : cand = (cSv 5 0, 2, cTv) := getOk_eq _ cand_val
theorem cS_eq : cS = cSv 5 0 := by rw [cS, cand_eq]
theorem cH_eq : cH = 2 := by rw [cH, cand_eq]
theorem cTxs_eq : cTxs = cTv := by rw [cTxs, cand_eq]

theorem cand_ok : minerCandidate nvC nvP m2 pkB 5 0 = .ok (cS, cH, cTxs) := by
  rw [cS_eq, cH_eq, cTxs_eq]; exact cand_val

theorem cEv_val : evidenceAfterScrypt nvC nvP sGA (summaryHash nvC cS cH) cS cH cTxs = .ok cEvv := by
  rw [cS_eq, cH_eq, cTxs_eq]; decide +kernel

theorem cEv_eq : cEv = cEvv := getOk_eq _ cEv_val

theorem cEv_ok : evidenceAfterScrypt nvC nvP m2.coinstate (summaryHash nvC cS cH) cS cH cTxs = .ok cEv := by
  rw [cEv_eq]; exact cEv_val

theorem B_eq : B = Bv 5 0 := by rw [B, cS_eq, cEv_eq, cTxs_eq]; rfl

attribute [local irreducible] cand cEv

/-- `candidate_shape`: hypothesis met with a pool of two transactions; the candidate holds the
reward plus both, the reward pays 10 + 3 -/
theorem nonvacuous_candidate_shape :
    ∃ m pk clock nonce s h txs, minerCandidate nvC nvP m pk clock nonce = .ok (s, h, txs) ∧
      m.pool = [t1, t2] ∧ txs.length = 3 ∧ txs.tail = [t1, t2] ∧
      txs.head?.map (·.tx.outputs) = some [⟨13, pkB⟩] ∧ h = 2 :=
  ⟨m2, pkB, 5, 0, _, _, _, cand_val, rfl, rfl, rfl, rfl, rfl⟩

example := C12.candidate_shape nvC nvP m2 pkB 5 0 cS cH cTxs cand_ok

theorem B_pow : bytesLt (nvC.sha256d (encHeader ⟨cS, cEv⟩)) cS.target = true := by
  rw [cS_eq, cEv_eq]; decide +kernel
/-- the same as `minerFound` puts it (`B` has no cached id, so its id is the hash of its header) -/
theorem B_sol : bytesLt (B.id nvC) B.target = true := B_pow
theorem B_clock : (cS.timestamp : Int) ≤ 0 + nvP.maxFutureBlockTime := by rw [cS_eq]; decide
theorem encB_length : (encBlock B).length = 675 := by rw [B_eq]; decide +kernel
theorem B_size : (encBlock (Block.fresh ⟨cS, cEv⟩ cTxs)).length ≤ nvP.maxBlockSize := by
  show (encBlock B).length ≤ _
  rw [encB_length]; decide
theorem B_hor : nvP.maxKnownHeight < (cH : Int) := by rw [cH_eq]; decide
theorem m2_hz : m2.coinstate.current ≠ some (zeros 32) := C12.built_state_head_not_zero nvC [G, A] sGA wfGA foldGA
theorem m2_hbh : m2.coinstate.current.bind m2.coinstate.byHeightAt.get? ≠ none :=
  C12.built_state_head_index nvC [G, A] sGA wfGA foldGA

/-- `assembled_block_valid_partial`: all ten hypotheses met at once (pool invariant on a pool of
two, candidate, evidence, proof of work, clock, size, horizon, interval, head not zero, index
stored) -/
theorem nonvacuous_assembled_block_valid_partial :
    ∃ m pk clock nonce s h txs now ev,
      C13.PoolInv nvC nvP m ∧ minerCandidate nvC nvP m pk clock nonce = .ok (s, h, txs) ∧
      evidenceAfterScrypt nvC nvP m.coinstate (summaryHash nvC s h) s h txs = .ok ev ∧
      bytesLt (nvC.sha256d (encHeader ⟨s, ev⟩)) s.target = true ∧
      (s.timestamp : Int) ≤ now + nvP.maxFutureBlockTime ∧
      (encBlock (Block.fresh ⟨s, ev⟩ txs)).length ≤ nvP.maxBlockSize ∧
      nvP.maxKnownHeight < (h : Int) ∧ 0 < nvP.retargetInterval ∧
      m.coinstate.current ≠ some (zeros 32) ∧
      m.coinstate.current.bind m.coinstate.byHeightAt.get? ≠ none ∧
      m.pool = [t1, t2] :=
  ⟨m2, pkB, 5, 0, cS, cH, cTxs, 0, cEv, poolInv_m2, cand_ok, cEv_ok, B_pow, B_clock, B_size, B_hor,
    by decide, m2_hz, m2_hbh, rfl⟩

theorem B_accepted_by_theorem : ∃ cs', addBlock nvC nvP m2.coinstate B 0 = .ok cs' :=
  C12.assembled_block_valid_partial nvC nvP m2 pkB 5 0 cS cH cTxs 0 poolInv_m2 cand_ok cEv cEv_ok
    B_pow B_clock B_size B_hor (by decide) m2_hz m2_hbh

/-- the conclusion, independently: the block really is accepted, and becomes the head at height 2 -/
def sGAB : CoinState := getOk (addBlock nvC nvP sGA B 0) .empty

/-- `addBlock` is evaluated on the block once; everything said of the run below is read off this evaluation: the block is
accepted; in the new state it is the head, at height 2, no pending transaction is valid any more, three blocks are stored -/
theorem B_run : isOk (addBlock nvC nvP sGA B 0) = true ∧
    (sGAB.head.map (·.height) = some 2 ∧ sGAB.current = some (B.id nvC)) ∧
    cleanupPool nvC sGAB [t1, t2] = [] ∧ sGAB.blocks.keys.length = 3 := by
  rw [sGAB, B_eq]; decide +kernel

theorem B_accepted : addBlock nvC nvP sGA B 0 = .ok sGAB := eq_ok_getOk _ B_run.1

/-- the accepted block becomes the head at height 2 -/
theorem B_is_head : sGAB.head.map (·.height) = some 2 ∧ sGAB.current = some (B.id nvC) := B_run.2.1

/-- `assembled_block_valid_on_built_states` (C12Reach): the same instance, the two chain-state
hypotheses replaced by a well-formed history `G ← A` that folds to the served state -/
theorem nonvacuous_assembled_block_valid_on_built_states :
    ∃ bs m, WFArrivals nvC bs ∧ foldBlocks nvC .empty bs = .ok m.coinstate ∧
      C13.PoolInv nvC nvP m ∧ m.pool = [t1, t2] ∧ bs.length = 2 :=
  ⟨[G, A], m2, wfGA, foldGA, poolInv_m2, rfl, rfl⟩

example : ∃ cs', addBlock nvC nvP m2.coinstate (Block.fresh ⟨cS, cEv⟩ cTxs) 0 = .ok cs' :=
  C12.assembled_block_valid_on_built_states nvC nvP [G, A] m2 wfGA foldGA pkB 5 0 cS cH cTxs 0
    poolInv_m2 cand_ok cEv cEv_ok B_pow B_clock B_size B_hor (by decide)

/-- the auxiliary theorems of C12Reach on the same history -/
example := C12.built_state_current_mem nvC [G, A] sGA wfGA foldGA
example := C12.built_state_index_all nvC [G, A] sGA wfGA foldGA A (by simp)
example := C12.built_state_head_not_zero nvC [G, A] sGA wfGA foldGA
example := C12.built_state_head_index nvC [G, A] sGA wfGA foldGA

/-! ### the clock corner (D5): the head is fine, the miner's clock is 100, the validating clock 0 -/

def candF : Summary × Nat × List CTx :=
  getOk (minerCandidate nvC nvP m2 pkB 100 0) (⟨0, [], [], 0, [], 0⟩, 0, [])
def evF : Evidence :=
  getOk (evidenceAfterScrypt nvC nvP sGA (summaryHash nvC candF.1 candF.2.1) candF.1 candF.2.1 candF.2.2)
    ⟨[], [], []⟩
def BF : Block := Block.fresh ⟨candF.1, evF⟩ candF.2.2

/-- `BF` evaluated once: what `future_head_candidate_rejected` assumes, and what `minerFound` checks
before it validates -/
theorem BF_facts : ((BF.timestamp : Int) > 0 + nvP.maxFutureBlockTime ∧ isOk (addBlock nvC nvP sGA BF 100) = true) ∧
    isOk (evidenceAfterScrypt nvC nvP sGA (summaryHash nvC candF.1 candF.2.1) candF.1 candF.2.1 candF.2.2) = true ∧
    bytesLt (BF.id nvC) BF.target = true := by
  decide +kernel

/-- `future_head_candidate_rejected`: hypothesis met by an otherwise perfectly assembled block -/
theorem nonvacuous_future_head_candidate_rejected :
    (BF.timestamp : Int) > 0 + nvP.maxFutureBlockTime ∧
    isOk (addBlock nvC nvP sGA BF 100) = true := BF_facts.1

example := C12.future_head_candidate_rejected nvC nvP sGA BF 0
  nonvacuous_future_head_candidate_rejected.1

/-- one peer that has exchanged greetings, one that has not -/
def p1 : PeerSt := ⟨true, true, true, true, [], false, []⟩
def p2 : PeerSt := ⟨true, true, true, false, [.hello], false, []⟩
def n0 : Node := ⟨m2, [], [G, A], [p1, p2], 0⟩

def n1 : Node := adoptFound nvC n0 sGAB B

/-- whatever the node, its miner adopts `B` -/
theorem found_ok (n : Node) :
    minerFound nvC nvP n sGA cS cH cTxs (summaryHash nvC cS cH) 0 = ((adoptFound nvC n sGAB B, none), some B) :=
  minerFound_ok n cEv_ok B_sol B_accepted

/-- `found_block_adopted`: both hypotheses met; afterwards the block is the head, the pool (both
transactions are in the block) is empty, the store holds three blocks and exactly the peer that
exchanged greetings was sent the block -/
theorem nonvacuous_found_block_adopted :
    ∃ n cs s h txs sh now n' b,
      minerFound nvC nvP n cs s h txs sh now = ((n', none), some b) ∧
      bytesLt (b.id nvC) b.target = true ∧
      n.mgr.pool = [t1, t2] ∧ n'.mgr.pool = [] ∧ b.txs.length = 3 ∧
      n'.mgr.coinstate.head.map (·.height) = some 2 ∧ n'.disk.length = 3 ∧
      n.peers.map (·.outbox.length) = [0, 1] ∧ n'.peers.map (·.outbox.length) = [1, 1] :=
  ⟨n0, sGA, cS, cH, cTxs, summaryHash nvC cS cH, 0, n1, B, found_ok n0, B_sol, rfl,
    B_run.2.2.1,
    by rw [B_eq]; rfl, B_is_head.1, by rw [n1, B_eq]; decide +kernel, by decide, by rw [n1]; decide +kernel⟩

example := C12.found_block_adopted nvC nvP n0 sGA cS cH cTxs (summaryHash nvC cS cH) 0 n1 B (found_ok n0) B_sol

/-- `invalid_found_block_not_adopted`: hypothesis met by the clock-corner candidate (below target,
refused by the node's own validation) -/
theorem nonvacuous_invalid_found_block_not_adopted :
    ∃ n' e b, minerFound nvC nvP n0 sGA candF.1 candF.2.1 candF.2.2
      (summaryHash nvC candF.1 candF.2.1) 0 = ((n', some e), some b) :=
  have ⟨e, h⟩ := minerFound_refused n0 (eq_ok_getOk _ BF_facts.2.1) BF_facts.2.2
    (C12.future_head_candidate_rejected nvC nvP sGA BF 0 BF_facts.1.1)
  ⟨n0, e, BF, h⟩

example : ∃ n', n' = n0 := by
  obtain ⟨n', e, b, h⟩ := nonvacuous_invalid_found_block_not_adopted
  exact ⟨n', C12.invalid_found_block_not_adopted nvC nvP n0 sGA _ _ _ _ 0 n' b e h⟩

/-! ## C06

The block is `B`, the block the miner assembled above (reward + `t1` + `t2`), accepted by full
validation on top of `G ← A`; it is well-formed on the wire (32-byte hashes, 64-byte keys and
signatures). -/

theorem wfB : B.content.WF := by rw [B_eq]; decide +kernel

/-- `truncation_undecodable`: hypotheses met (`B` is 675 bytes long; cut at 100, i.e. inside the
header, and at 674, i.e. one byte short); the untruncated encoding does decode -/
theorem nonvacuous_truncation_undecodable :
    B.content.WF ∧ 100 < (encBlock B).length ∧ 674 < (encBlock B).length ∧
    (decBlock nvC.sha256d (encBlock B)).isSome = true :=
  ⟨wfB, by rw [encB_length]; decide, by rw [encB_length]; decide,
    by rw [← (encBlock B).append_nil, C07.decBlock_encBlock _ B _ wfB]; rfl⟩

example := C06.truncation_undecodable nvC B wfB 100 nonvacuous_truncation_undecodable.2.1
example := C06.truncation_undecodable nvC B wfB 674 nonvacuous_truncation_undecodable.2.2.1

theorem wf_t1 : t1.tx.WF := by decide +kernel
theorem t1_dec : Tx.codec.dec (encTx t1.tx) = some (t1.tx, []) := by
  rw [← (encTx t1.tx).append_nil, encTx, C07.transaction_roundtrip _ _ wf_t1]

/-- `tx_truncation_undecodable` -/
theorem nonvacuous_tx_truncation_undecodable :
    t1.tx.WF ∧ 50 < (encTx t1.tx).length ∧ (Tx.codec.dec (encTx t1.tx)).isSome = true :=
  ⟨wf_t1, by decide +kernel, by rw [t1_dec]; rfl⟩

example := C06.tx_truncation_undecodable t1.tx nonvacuous_tx_truncation_undecodable.1 50
  nonvacuous_tx_truncation_undecodable.2.1

/-- the same block as another Python object (a cached id), validated at another time -/
def B' : Block := ⟨B.header, B.txs, some (pad32 103)⟩
def sGAB' : CoinState := getOk (addBlock nvC nvP sGA B' 7) .empty
theorem B_above : nvP.maxKnownHeight < (B.height : Int) := by rw [B_eq]; decide
theorem B'_accepted : addBlock nvC nvP sGA B' 7 = .ok sGAB' := by
  refine eq_ok_getOk _ ?_
  rw [addBlock_recache nvC nvP (b := B) (b' := B') (now' := 7) rfl rfl B_above (by decide) B_accepted, B', B_eq]
  decide +kernel
theorem B'_ne : B' ≠ B := fun h => nomatch (congrArg Block.cached h : some (pad32 103) = none)

/-- `evidence_flip_rejected`: all five hypotheses met with `b' ≠ b` (the conclusion forces the
evidence fields to agree, so `b'` can differ from `b` in the cached id only) -/
theorem nonvacuous_evidence_flip_rejected :
    ∃ cs cs' cs'' b b' now now', nvP.maxKnownHeight < (b.height : Int) ∧
      b'.header.summary = b.header.summary ∧ b'.txs = b.txs ∧
      addBlock nvC nvP cs b now = .ok cs' ∧ addBlock nvC nvP cs b' now' = .ok cs'' ∧
      b' ≠ b ∧ b.txs.length = 3 :=
  ⟨sGA, sGAB, sGAB', B, B', 0, 7, B_above, rfl, rfl, B_accepted, B'_accepted, B'_ne, by rw [B_eq]; rfl⟩

example := C06.evidence_flip_rejected nvC nvP sGA sGAB sGAB' B B' 0 7 B_above rfl rfl B_accepted
  B'_accepted

/-- `commit`, first instance: the same content as two objects -/
theorem nonvacuous_commit :
    ∃ cs cs' cs'' b b' now now', nvP.maxKnownHeight < (b.height : Int) ∧
      nvP.maxKnownHeight < (b'.height : Int) ∧ b.content.WF ∧ b'.content.WF ∧
      addBlock nvC nvP cs b now = .ok cs' ∧ addBlock nvC nvP cs b' now' = .ok cs'' ∧
      b.header.evidence = b'.header.evidence ∧ b' ≠ b :=
  ⟨sGA, sGAB, sGAB', B, B', 0, 7, B_above, B_above, wfB, wfB, B_accepted, B'_accepted, rfl, B'_ne⟩

example := C06.commit nvC nvP sGA sGAB sGAB' B B' 0 7 B_above B_above wfB wfB B_accepted
  B'_accepted rfl

/-- `commit`, second instance: a block with a *different encoding* (timestamp 4 and nonce 1
instead of 5 and 0), accepted against the same state with the same evidence — possible only
because the toy hash collides (byte sums), which is exactly what the theorem then reports -/
def Bc : Block := Bv 4 1

theorem commit_reports_collision :
    Collision nvC.blake2 ∨ Collision (Function.uncurry nvC.scrypt) := by
  rcases C06.commit nvC nvP sGA sGAB _ B Bc 0 0 B_above (by decide) wfB (by decide +kernel) B_accepted
    (eq_ok_getOk .empty (by decide +kernel)) (by rw [B_eq]; rfl) with h | h
  · exact absurd h.symm (by rw [B_eq]; decide +kernel)
  · exact h

/-- `same_id_same_content`: ids as the decoder caches them (the hash of the header) -/
def Bd : Block := ⟨B.header, B.txs, some (nvC.sha256d (encHeader B.header))⟩
def sGABd : CoinState := getOk (addBlock nvC nvP sGA Bd 3) .empty
theorem Bd_accepted : addBlock nvC nvP sGA Bd 3 = .ok sGABd := by
  refine eq_ok_getOk _ ?_
  rw [addBlock_recache nvC nvP (b := B) (b' := Bd) (now' := 3) rfl rfl B_above (by decide) B_accepted, Bd, B_eq]
  decide +kernel

example := C06.same_id_same_content nvC nvP sGA sGAB sGABd B Bd 0 3 B_above B_above wfB wfB rfl rfl
  B_accepted Bd_accepted rfl

/-- `flip_outside_evidence_rejected_partial`: the nonce altered (one bit), the evidence field as
it was: all seven hypotheses met, and the altered block really is rejected (first disjunct) -/
def Bn : Block := Bv 5 1
theorem wfBn : Bn.content.WF := by decide +kernel
theorem Bn_enc_ne : encBlock Bn ≠ encBlock B := by rw [B_eq]; decide +kernel
theorem Bn_above : nvP.maxKnownHeight < (Bn.height : Int) := by decide
theorem Bn_ev : Bn.header.evidence = B.header.evidence := by rw [B_eq]; rfl

theorem nonvacuous_flip_outside_evidence_rejected_partial :
    ∃ cs cs' b b' now, nvP.maxKnownHeight < (b.height : Int) ∧
      nvP.maxKnownHeight < (b'.height : Int) ∧ b.content.WF ∧ b'.content.WF ∧
      addBlock nvC nvP cs b now = .ok cs' ∧ b'.header.evidence = b.header.evidence ∧
      encBlock b' ≠ encBlock b ∧ (∀ now' cs'', now' = (0 : Int) → addBlock nvC nvP cs b' now' ≠ .ok cs'') :=
  ⟨sGA, sGAB, B, Bn, 0, B_above, Bn_above, wfB, wfBn, B_accepted, Bn_ev, Bn_enc_ne,
    -- the nonce enters the summary hash, which an accepted block carries as the first field of its evidence
    fun _ cs'' h => h ▸ fun ha =>
      absurd (constructEvidence_ok nvC nvP (C06.accepted_evidence nvC nvP Bn_above ha)).1 (by decide +kernel)⟩

example := C06.flip_outside_evidence_rejected_partial nvC nvP sGA sGAB B Bn 0 0 B_above Bn_above wfB
  wfBn B_accepted Bn_ev Bn_enc_ne

end NonVacuity1
