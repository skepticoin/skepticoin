import Model.Node

/-!
Props.Toy — what the concrete instances of the property files share: reading off the result of a computation that is
known to succeed (the instances are closed terms, evaluated by the kernel), deciding well-formedness on the wire, and the
smallest toy primitives with a three-block chain that passes `validate_block_by_itself`. The first two are declared in
the namespace `NonVacuity1`, the toy chain in the namespace `C10Converge`.
-/

-- `x = .ok v` is decided by evaluating `x` wherever the values have decidable equality
deriving instance DecidableEq for Except

-- the namespace of the first user (`Props/NonVacuity1.lean`); the names occur in statements of the other instance files
namespace NonVacuity1
open Model

def isOk {α : Type} (x : Except Err α) : Bool := match x with | .ok _ => true | .error _ => false
def getOk {α : Type} (x : Except Err α) (d : α) : α := match x with | .ok a => a | .error _ => d

theorem eq_ok_getOk {α : Type} {x : Except Err α} (d : α) (h : isOk x = true) :
    x = .ok (getOk x d) := by
  cases x with
  | ok a => rfl
  | error e => cases h

theorem getOk_eq {α : Type} {x : Except Err α} {a : α} (d : α) (h : x = .ok a) : getOk x d = a := by
  rw [h]; rfl

theorem ne_ok_of_not_isOk {α : Type} {x : Except Err α} (h : isOk x = false) : ∀ a, x ≠ .ok a := by
  intro a e
  rw [e] at h
  cases h

instance : DecidablePred OutRef.WF := fun r => by unfold OutRef.WF; infer_instance
instance : DecidablePred Sig.WF := fun s => by cases s <;> unfold Sig.WF <;> infer_instance
instance : DecidablePred Input.WF := fun i => by unfold Input.WF; infer_instance
instance : DecidablePred Output.WF := fun o => by unfold Output.WF; infer_instance
instance : DecidablePred Tx.WF := fun t => by unfold Tx.WF; infer_instance
instance : DecidablePred Evidence.WF := fun e => by unfold Evidence.WF; infer_instance
instance : DecidablePred Summary.WF := fun s => by unfold Summary.WF; infer_instance
instance : DecidablePred Header.WF := fun h => by unfold Header.WF; infer_instance
instance : DecidablePred BlockC.WF := fun b => by unfold BlockC.WF; infer_instance

end NonVacuity1

namespace C10Converge
open Model

/-- a toy crypto (every hash is the empty string, below every non-empty target), small parameters with batch size 1 and
`IBD_VALIDATION_SKIP = 5` (`exP`, field for field the `nvP` described in NonVacuity1.lean), and three blocks `G ← A ← A2` with cached ids `[1]`, `[2]`, `[4]` that pass
`validate_block_by_itself` (coinbase out of thin air carrying the height, Merkle root = the coinbase's cached hash `[7]`).
(The blocks `C10Walk.exG/exA/exA2` cannot be used for `one_peer_sync_converges`: their coinbase has no input and their
target is empty, so they fail the by-itself validation and `hvalid` does not hold for them.) -/
def exC : Crypto := ⟨fun _ => [], fun _ => [], fun _ _ => [], fun _ _ _ => true⟩
def exP : Params := ⟨100, 1000, 30, 10, 10, 10, 10, 10, 8, 4, -1, [], 1, 5, 1000, 1, 1, 1, 1, 1⟩
def exCb (h : Nat) : CTx := ⟨⟨[⟨thinAir, .coinbase h []⟩], [⟨10, [5]⟩]⟩, some [7]⟩
def exG : Block := ⟨⟨⟨0, zeros 32, [7], 0, [1], 0⟩, ⟨[], [], []⟩⟩, [exCb 0], some [1]⟩
def exA : Block := ⟨⟨⟨1, [1], [7], 0, [1], 0⟩, ⟨[], [], []⟩⟩, [exCb 1], some [2]⟩
def exA2 : Block := ⟨⟨⟨2, [2], [7], 0, [1], 0⟩, ⟨[], [], []⟩⟩, [exCb 2], some [4]⟩

end C10Converge
