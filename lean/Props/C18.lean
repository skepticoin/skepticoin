import Proofs.Validation
import Proofs.Map
import Gen.Params

/-!
# C18 — checkpoints are enforced

Below the horizon a block at a checkpointed height is accepted exactly when it has the checkpoint's id, for every
table; then the facts about the table regenerated from cheating.py. The conformance half — genesis and the recorded
blocks of the real network keep their ids and pass full validation with the real scrypt — is executed by the harness
on every run; it is a test, labelled as such, not a theorem.
-/

namespace Model
namespace C18

variable (C : Crypto) (P : Params)

/-- below the horizon, at a checkpointed height, a block whose id differs from the built-in
checkpoint is rejected — for every table, horizon, chain state and block -/
theorem checkpoint_enforced (cs : CoinState) (b : Block) (h : Bytes)
    (hle : (b.height : Int) ≤ P.maxKnownHeight) (hk : P.knownHashes.lookup b.height = some h)
    (hne : b.id C ≠ h) : ∃ msg, validateBlockInState C P cs b = .error (.validation msg) := by
  rw [validateBlockInState_below C P cs b hle, hk]
  exact ⟨_, if_neg (by simpa using hne)⟩

/-- … and accepted by this check when it equals it -/
theorem checkpoint_accepts_its_id (cs : CoinState) (b : Block) (h : Bytes)
    (hle : (b.height : Int) ≤ P.maxKnownHeight) (hk : P.knownHashes.lookup b.height = some h)
    (he : b.id C = h) : validateBlockInState C P cs b = .ok () := by
  rw [validateBlockInState_below C P cs b hle, hk]
  exact (require_ok ..).2 (decide_eq_true he)

theorem unlisted_height_accepted (cs : CoinState) (b : Block)
    (hle : (b.height : Int) ≤ P.maxKnownHeight) (hk : P.knownHashes.lookup b.height = none) :
    validateBlockInState C P cs b = .ok () := by
  rw [validateBlockInState_below C P cs b hle, hk]
  rfl

/-- so no alternative history passes a checkpoint: whatever `add_block` accepts at a
checkpointed height below the horizon has exactly the checkpoint's id -/
theorem no_alternative_history (cs cs' : CoinState) (b : Block) (now : Int) (h : Bytes)
    (ha : addBlock C P cs b now = .ok cs')
    (hle : (b.height : Int) ≤ P.maxKnownHeight) (hk : P.knownHashes.lookup b.height = some h) :
    b.id C = h := by
  have h2 := ((addBlock_ok C P cs cs' b now).1 ha).2.1
  rw [validateBlockInState_below C P cs b hle, hk] at h2
  exact of_decide_eq_true ((require_ok ..).1 h2)

/-- above the horizon the table plays no role: full validation decides -/
theorem above_horizon_full_validation (cs : CoinState) (b : Block)
    (hgt : P.maxKnownHeight < (b.height : Int)) (h : validateBlockInState C P cs b = .ok ()) :
    InState C P cs b :=
  (validateBlockInState_ok C P cs b (by omega)).1 h

/-! ## the table regenerated from cheating.py on this run -/

/-- the horizon is the greatest checkpointed height, every key is at or below it, and keys are
distinct (so `lookup` finds the entry the Python dict holds) -/
theorem production_table_shape :
    (Gen.KNOWN_HASHES.all fun p => decide ((p.1 : Int) ≤ Gen.params.maxKnownHeight)) = true ∧
    (Gen.KNOWN_HASHES.any fun p => decide ((p.1 : Int) = Gen.params.maxKnownHeight)) = true ∧
    (Gen.KNOWN_HASHES.map (·.1)).Nodup ∧
    (Gen.KNOWN_HASHES.all fun p => p.2.length = 32) = true ∧
    Gen.params.knownHashes = Gen.KNOWN_HASHES := by
  -- one evaluation for the four finite facts, so that the table is unfolded once; the keys are
  -- distinct because each is smaller than the next
  have h : (Gen.KNOWN_HASHES.all fun p => decide ((p.1 : Int) ≤ Gen.params.maxKnownHeight)) = true ∧
      (Gen.KNOWN_HASHES.any fun p => decide ((p.1 : Int) = Gen.params.maxKnownHeight)) = true ∧
      (((Gen.KNOWN_HASHES.map (·.1)).zip (Gen.KNOWN_HASHES.map (·.1)).tail).all
        fun p => decide (p.1 < p.2)) = true ∧
      (Gen.KNOWN_HASHES.all fun p => p.2.length = 32) = true := by decide +kernel
  exact ⟨h.1, h.2.1, (pairwise_lt_of_adjacent _ h.2.2.1).imp Nat.ne_of_lt, h.2.2.2, rfl⟩

/-- every entry of the production table is enforced -/
theorem production_checkpoints_enforced (cs : CoinState) (b : Block) (h : Bytes)
    (hk : Gen.params.knownHashes.lookup b.height = some h) (hne : b.id C ≠ h) :
    ∃ msg, validateBlockInState C Gen.params cs b = .error (.validation msg) := by
  apply checkpoint_enforced C Gen.params cs b h _ hk hne
  -- a height found in the table is at or below the horizon
  obtain ⟨l₁, l₂, e, _⟩ := List.lookup_eq_some_iff.1 hk
  have := List.all_eq_true.1 production_table_shape.1 (b.height, h)
    (by rw [← production_table_shape.2.2.2.2, e]; exact List.mem_append_right _ List.mem_cons_self)
  simpa using this

example : Gen.params.knownHashes.lookup 0 ≠ none ∧ Gen.params.knownHashes.lookup 163000 ≠ none := by
  decide +kernel

end C18
end Model
