import Proofs.NodeLemmas

/-!
# C10 (continued) — what the requester does with a non-empty inventory

`handle_inventory_message_received` as modelled in `handleMessage`: the data of every listed block that is not stored is
requested, in order, and then the next batch is asked for with the locator `[last listed id]`; nothing else changes
(chain state, pool, store). This is the step that `C10Walk.walk` iterates against one server state.
-/

namespace C10Follow
open Model

variable (C : Crypto) (P : Params)

/-- a greeted peer's non-empty inventory of at most one batch: requests for exactly the listed blocks that are not
stored, in the listed order, then the follow-up request with the locator `[last listed id]`; the chain state, the
pool, the write buffer and the store are untouched, and no error is raised -/
theorem inventory_followup (n : Node) (c msgId irt : Nat) (p : PeerSt) (ids : List Bytes) (now : Int)
    (hp : n.peers[c]? = some p) (hh : p.helloReceived = true) (hne : ids ≠ []) (hsz : ids.length ≤ P.inventorySize) :
    ∃ n', handleMessage C P n c msgId irt (.inventory ids) now = (n', none) ∧
      n'.mgr = n.mgr ∧ n'.wbuf = n.wbuf ∧ n'.disk = n.disk ∧
      (n'.peers[c]?).map (·.outbox) =
        some (p.outbox ++ (ids.filter fun i => !n.mgr.coinstate.blocks.contains i).map Out.getData
              ++ [Out.getBlocks [ids.getLast!]]) := by
  have hsz' : ¬ ids.length > P.inventorySize := by omega
  have hemp : ids.isEmpty = false := List.isEmpty_eq_false_iff.2 hne
  rw [handleMessage_greeted C P hp hh]
  simp only [hsz', hemp, Bool.false_eq_true, ↓reduceIte]
  refine ⟨_, rfl, ?_⟩
  -- recording the batch, the data requests and the follow-up are one update of connection `c`
  rw [Node.foldl_send Out.getData, Node.send, Node.updatePeer_updatePeer, Node.updatePeer_updatePeer]
  refine ⟨rfl, rfl, rfl, ?_⟩
  rw [peers_updatePeer n c _ p hp]
  rfl

/-- an empty inventory only clears the waiting flag: no request is sent (the back-off of the manager decides when
to ask again) -/
theorem empty_inventory_no_request (n : Node) (c msgId irt : Nat) (p : PeerSt) (now : Int)
    (hp : n.peers[c]? = some p) (hh : p.helloReceived = true) :
    ∃ n', handleMessage C P n c msgId irt (.inventory []) now = (n', none) ∧ n'.mgr = n.mgr ∧
      (n'.peers[c]?).map (·.outbox) = some p.outbox := by
  rw [handleMessage_greeted C P hp hh]
  refine ⟨_, rfl, rfl, ?_⟩
  rw [peers_updatePeer n c _ p hp]
  rfl

/-- non-vacuity: a node with one greeted peer -/
example : ∃ (n : Node) (p : PeerSt), n.peers[0]? = some p ∧ p.helloReceived = true :=
  ⟨⟨⟨CoinState.empty, [], CoinState.empty⟩, [], [], [⟨true, false, true, true, [], false, []⟩], 0⟩, _, rfl, rfl⟩

end C10Follow
