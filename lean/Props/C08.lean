import Proofs.StoreLemmas

/-!
# C08 — persistence fidelity: the block store returns what was written  *(partial)*

The full statement — *whatever* sequence of accepted blocks, including competing forks that
contain the same pending transaction — is false of the code (known finding D2): see
`shared_transaction_counterexample`. `store_roundtrip_partial` proves it for every history in
which no transaction id occurs in two different written blocks.
-/

namespace Model
namespace C08

variable (C : Crypto)

def txHashes (b : Block) : List Bytes := b.txs.map fun t => C.sha256d (encTx t.tx)

/-- a history of flushes of accepted blocks: parents are flushed no later than their children,
spent outputs were created by transactions flushed no later, every block has its reward
transaction, ids are distinct, **and no transaction id occurs in two different blocks** -/
structure GoodHistory (batches : List (List Block)) : Prop where
  idsNodup : (batches.flatten.map (·.id C)).Nodup
  parents : ∀ pre b post, batches.flatten = pre ++ b :: post →
    b.prev = zeros 32 ∨ ∃ p ∈ pre, p.id C = b.prev
  nonempty : ∀ b ∈ batches.flatten, b.txs ≠ []
  refs : ∀ done batch rest, batches = done ++ batch :: rest →
    ∀ b ∈ batch, ∀ t ∈ b.txs, ∀ i ∈ t.tx.inputs, i.ref.hash = zeros 32 ∨
      ∃ b' ∈ done.flatten ++ batch, ∃ t' ∈ b'.txs, C.sha256d (encTx t'.tx) = i.ref.hash ∧ i.ref.index < t'.tx.outputs.length
  noSharedTx : (batches.flatten.flatMap (txHashes C)).Nodup

/-- what identifies a block and its content (the encoding is a function of header and
transaction contents, so equal summaries are byte-identical blocks) -/
def summaryOf (b : Block) : Bytes × Header × List Tx := (b.id C, b.header, b.txs.map (·.tx))

/-- reading the store back yields exactly the blocks written — same ids, same content —, in
height order, each transaction carrying the hash of its encoding as id -/
theorem store_roundtrip_partial (batches : List (List Block)) (h : GoodHistory C batches) :
    ∃ s, Store.writeAll C Store.empty batches = (s, true) ∧ s.txnOpen = false ∧
      (s.read.map (summaryOf C)).Perm (batches.flatten.map (summaryOf C)) ∧
      (s.read.map (·.height)).Pairwise (· ≤ ·) ∧
      (∀ b ∈ s.read, b.cached = some (b.id C)) ∧
      ∀ b ∈ s.read, ∀ t ∈ b.txs, t.cached = some (C.sha256d (encTx t.tx)) := by
  obtain ⟨hids, hpar, hne, hrefs, hshared⟩ := h
  have hw : Store.writeAll C Store.empty batches = (StoreL.storeOf C batches.flatten, true) :=
    StoreL.writeAll_storeOf C batches [] ⟨hids, hpar, hshared⟩ hrefs
  obtain ⟨hperm, hsorted⟩ := StoreL.read_storeOf C batches.flatten hne hids hshared
  have hrd : ∀ b' ∈ (StoreL.storeOf C batches.flatten).read, ∃ b ∈ batches.flatten, StoreL.readOf C b = b' :=
    fun b' hb' => List.mem_map.1 (hperm.mem_iff.1 hb')
  refine ⟨StoreL.storeOf C batches.flatten, hw, rfl, ?_, hsorted, fun b' hb' => ?_, fun b' hb' t ht => ?_⟩
  · -- `readOf` changes the cached ids only, which `summaryOf` does not show
    refine (hperm.map _).trans (List.Perm.of_eq ?_)
    rw [List.map_map]
    exact List.map_congr_left fun b _ => by simp [summaryOf, StoreL.readOf, Block.id]
  · obtain ⟨b, _, rfl⟩ := hrd b' hb'
    rfl
  · obtain ⟨b, _, rfl⟩ := hrd b' hb'
    obtain ⟨t0, _, rfl⟩ := List.mem_map.1 ht
    rfl

/-! ### `GoodHistory` of a concrete history, by a checked computation -/

def allSplits {α : Type} (p : List α → α → Bool) : List α → List α → Bool
  | _, [] => true
  | pre₀, x :: post => p pre₀ x && allSplits p (pre₀ ++ [x]) post

theorem allSplits_sound {α : Type} (p : List α → α → Bool) (l pre₀ : List α) (h : allSplits p pre₀ l = true)
    (pre : List α) (x : α) (post : List α) (e : l = pre ++ x :: post) : p (pre₀ ++ pre) x = true := by
  fun_induction allSplits p pre₀ l generalizing pre with
  | case1 => cases pre <;> cases e
  | case2 pre₀ y rest ih =>
    rw [Bool.and_eq_true] at h
    cases pre with
    | nil => cases e; rw [List.append_nil]; exact h.1
    | cons z pre => cases e; rw [List.append_cons]; exact ih h.2 pre rfl

def goodHistoryB (batches : List (List Block)) : Bool :=
  decide (batches.flatten.map (·.id C)).Nodup &&
  allSplits (fun pre b => b.prev = zeros 32 || pre.any fun p => p.id C = b.prev) [] batches.flatten &&
  batches.flatten.all (fun b => b.txs ≠ []) &&
  allSplits (fun done batch => batch.all fun b => b.txs.all fun t => t.tx.inputs.all fun i =>
    i.ref.hash = zeros 32 || (done.flatten ++ batch).any fun b' => b'.txs.any fun t' =>
      C.sha256d (encTx t'.tx) = i.ref.hash && i.ref.index < t'.tx.outputs.length) [] batches &&
  decide (batches.flatten.flatMap (txHashes C)).Nodup

theorem GoodHistory.of_decide {batches : List (List Block)} (h : goodHistoryB C batches = true) :
    GoodHistory C batches := by
  simp only [goodHistoryB, Bool.and_eq_true, decide_eq_true_eq, List.all_eq_true] at h
  obtain ⟨⟨⟨⟨h1, h2⟩, h3⟩, h4⟩, h5⟩ := h
  refine ⟨h1, fun pre b post e => ?_, fun b hb => by simpa using h3 b hb, fun done batch rest e b hb t ht i hi => ?_, h5⟩
  · have := allSplits_sound _ _ _ h2 pre b post e
    simpa only [List.nil_append, Bool.or_eq_true, decide_eq_true_eq, List.any_eq_true] using this
  · have := allSplits_sound _ _ _ h4 done batch rest e
    simp only [List.nil_append, List.all_eq_true, Bool.or_eq_true, decide_eq_true_eq, List.any_eq_true,
      Bool.and_eq_true] at this
    exact this b hb t ht i hi

end C08

/-! ### concrete blocks (counterexample D2 and non-vacuity of `GoodHistory`)

declared in `StoreL.Ex` (`StoreL` is the namespace of `Proofs/StoreLemmas.lean`): the `example` below and
`Props/NonVacuity2.lean` name them so -/

namespace StoreL
namespace Ex

def hdr (h : Nat) (prev : Bytes) : Header := ⟨⟨h, prev, [], 0, [], 0⟩, ⟨[], [], []⟩⟩

/-- reward transactions of `g`, `a`, `b` and the shared transaction -/
def txG : Tx := ⟨[], []⟩
def txA : Tx := ⟨[], [⟨0, []⟩]⟩
def txB : Tx := ⟨[], [⟨0, [0]⟩]⟩
def txS : Tx := ⟨[], [⟨0, [0, 0]⟩]⟩

def gB : Block := ⟨hdr 0 (zeros 32), [⟨txG, none⟩], some [1]⟩
def aB : Block := ⟨hdr 1 [1], [⟨txA, none⟩, ⟨txS, none⟩], some [2]⟩
def bB : Block := ⟨hdr 1 [1], [⟨txB, none⟩, ⟨txS, none⟩], some [3]⟩

/-- the hashes of `txA` and `txB` under `x ↦ x.take 4 ++ [length x]` -/
def hA : Bytes := [0, 0, 1, 0, 12]
def hB : Bytes := [0, 0, 1, 0, 13]

/-- what is read back under `bB`'s id -/
def bRead : Block := ⟨hdr 1 [1], [⟨txB, some hB⟩], some [3]⟩

end Ex
end StoreL

namespace C08

/-- a toy instance of the primitives for the concrete counterexample below -/
def toy : Crypto := ⟨fun x => x.take 4 ++ [UInt8.ofNat x.length], fun _ => [], fun _ _ => [], fun _ _ _ => true⟩

/-- the full statement fails (D2): two competing blocks that contain the same transaction are
written in two flushes; the block written second is read back **without** that transaction.
(The concrete blocks: a parent `g`, a transaction `tx` spending nothing checked by the store,
fork blocks `a` and `b` on `g`, both containing `tx` after their own reward transaction.) -/
theorem shared_transaction_counterexample :
    ∃ (g a b : Block) (tx : CTx), tx ∈ a.txs ∧ tx ∈ b.txs ∧ a.id toy ≠ b.id toy ∧
      ∃ s, Store.writeAll toy Store.empty [[g], [a], [b]] = (s, true) ∧
        ∃ b' ∈ s.read, b'.id toy = b.id toy ∧ tx.tx ∉ b'.txs.map (·.tx) ∧ tx.tx ∈ b.txs.map (·.tx) :=
  open StoreL.Ex in
  ⟨gB, aB, bB, ⟨txS, none⟩, by decide, by decide, by decide, _,
    Prod.ext rfl (by decide +kernel : (Store.writeAll toy Store.empty [[gB], [aB], [bB]]).2 = true),
    bRead, by decide +kernel, by decide, by decide, by decide⟩

/-- non-vacuity: a concrete two-flush history (a parent, then a child with two transactions)
satisfies `GoodHistory` for the toy primitives -/
example : GoodHistory toy [[StoreL.Ex.gB], [StoreL.Ex.aB]] :=
  GoodHistory.of_decide toy (by decide +kernel)

end C08
end Model
