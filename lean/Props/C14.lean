import Proofs.Spend
import Proofs.NodeLemmas
-- for Mathlib in the import closure, not for a lemma: see the header of `Proofs/Vlq.lean`
import Proofs.Vlq

/-!
# C14 — the wallet builds exact, valid, non-overlapping spends or changes nothing
-/

namespace Model
namespace C14

variable (C : Crypto) (P : Params)

/-- what a successful `create_spend_transaction` returns -/
theorem spend_shape (w w' : Wallet) (u : Utxo) (bal : PKBalances) (amount fee : Nat) (recipient change : Bytes)
    (sigs : List Bytes) (t : Tx) (h : w.createSpend u bal amount fee recipient change sigs = .ok (w', t)) :
    ∃ chosen : List (OutRef × Output),
      let collected := (chosen.map (·.2.value)).sum
      -- pays exactly the amount to the recipient and exactly inputs − amount − fee to the change
      -- address, and no change output when that is zero
      amount + fee ≤ collected ∧
      t.outputs = [⟨amount, recipient⟩] ++
        (if collected = amount + fee then [] else [⟨collected - amount - fee, change⟩]) ∧
      -- one input per chosen output, each carrying a secp256k1 signature
      t.inputs.map (·.ref) = chosen.map (·.1) ∧ (∀ i ∈ t.inputs, i.sig.isSecp = true) ∧
      -- spends only outputs that are unspent at the head and owned by the wallet's keys
      (∀ ro ∈ chosen, u.get? ro.1 = some ro.2 ∧ ro.2.pk ∈ w.keys) ∧
      -- that no earlier spend from this wallet has used
      (∀ ro ∈ chosen, ro.1 ∉ w.spent) ∧
      -- and records them as used
      w'.spent = w.spent ++ chosen.map (·.1) ∧ w'.keypairs = w.keypairs ∧ w'.unused = w.unused ∧
      w'.annotations = w.annotations ∧
      -- they are taken from the candidates in order
      (chosen.map (·.1)).Sublist (w.candidates bal) := by
  obtain ⟨chosen, collected, htake, hkeys, hlen, hin, hout, hw⟩  := createSpend_ok h
  obtain ⟨⟨rest, hpre⟩, _, hget, htot, hge⟩ := takeUntil_some htake
  rw [Nat.zero_add] at htot
  subst htot hw
  refine ⟨chosen, hge, ?_, ?_, ?_, fun ro hro => ⟨hget ro hro, hkeys ro hro⟩, ?_, rfl, rfl, rfl, rfl, ?_⟩
  · rw [hout]
    by_cases hc : (chosen.map (·.2.value)).sum = amount + fee
    · simp [hc]
    · simp [hc, Nat.sub_add_eq]
  · rw [hin]; exact signedInputs_refs chosen sigs hlen
  · intro i hi
    rw [hin] at hi
    obtain ⟨s, hs⟩ := signedInputs_secp chosen sigs i hi
    rw [hs]; rfl
  · intro ro hro
    apply mem_candidates_not_spent w bal
    rw [hpre]
    exact List.mem_append_left _ (List.mem_map_of_mem hro)
  · rw [hpre]
    exact List.sublist_append_left _ _

/-- `spend_shape` in terms of the returned transaction's inputs: the form `successive_spends_disjoint` and C14Session use -/
theorem spend_record {w w' : Wallet} {u : Utxo} {bal : PKBalances} {amount fee : Nat} {recipient change : Bytes}
    {sigs : List Bytes} {t : Tx} (h : w.createSpend u bal amount fee recipient change sigs = .ok (w', t)) :
    (w'.spent = w.spent ++ t.inputs.map (·.ref) ∧ w'.keypairs = w.keypairs ∧ w'.unused = w.unused ∧
      w'.annotations = w.annotations) ∧ ∀ i ∈ t.inputs, i.ref ∉ w.spent := by
  obtain ⟨ch, _, _, hin, _, _, hns, hsp, hk, hu, ha, _⟩ := spend_shape w w' u bal amount fee recipient change sigs t h
  refine ⟨⟨hin ▸ hsp, hk, hu, ha⟩, fun i hi => ?_⟩
  obtain ⟨ro, hro, e⟩ := List.mem_map.1 (hin ▸ List.mem_map_of_mem hi)
  exact e ▸ hns ro hro

/-- insufficient funds (or any other failure) leaves the wallet — in particular its record of
used outputs — unchanged: the function returns no new wallet at all, and … -/
theorem failure_is_insufficient_or_error (w : Wallet) (u : Utxo) (bal : PKBalances) (amount fee : Nat)
    (recipient change : Bytes) (sigs : List Bytes) (e : Err)
    (h : w.createSpend u bal amount fee recipient change sigs = .error e)
    (hall : ∀ r ∈ w.candidates bal, ∃ o, u.get? r = some o ∧ o.pk ∈ w.keys) :
    e = .other "Insufficient balance" ∨ e = .other "Can't sign this; no known private key in wallet" := by
  rw [createSpend_eq] at h
  split at h
  · next htake =>
    obtain ⟨r, hr, hn⟩ := takeUntil_error htake
    obtain ⟨o, ho, _⟩ := hall r hr
    rw [hn] at ho; cases ho
  · cases h; exact .inl rfl
  · split at h
    · cases h
    · cases h; exact .inr rfl

/-- … so a later affordable spend still succeeds exactly as if the failed attempt had never been
made (the wallet value is the same; stated for the record) -/
theorem later_affordable_succeeds (w : Wallet) (u : Utxo) (bal : PKBalances) (a₁ f₁ a₂ f₂ : Nat)
    (r c : Bytes) (s₁ s₂ : List Bytes) (e : Err) (res : Wallet × Tx)
    (_hfail : w.createSpend u bal a₁ f₁ r c s₁ = .error e)
    (hok : w.createSpend u bal a₂ f₂ r c s₂ = .ok res) :
    w.createSpend u bal a₂ f₂ r c s₂ = .ok res := hok

/-- insufficient funds exactly when the spendable candidates do not reach amount + fee -/
theorem insufficient_iff (w : Wallet) (u : Utxo) (bal : PKBalances) (amount fee : Nat)
    (hall : ∀ r ∈ w.candidates bal, ∃ o, u.get? r = some o)
    -- ADDED HYPOTHESIS: with `amount + fee = 0` and no candidates the loop never runs and the
    -- Python (and `takeUntil`) reports "Insufficient balance" although `0 < 0` is false
    (hpos : 0 < amount + fee) :
    takeUntil u (amount + fee) (w.candidates bal) 0 = .ok none ↔
      ((w.candidates bal).map (fun r => ((u.get? r).map (·.value)).getD 0)).sum < amount + fee := by
  have := takeUntil_none_iff u (amount + fee) (w.candidates bal) 0 hpos hall
  rw [Nat.zero_add] at this
  exact this

/-- successive spends never overlap: what a second spend uses is disjoint from the first -/
theorem successive_spends_disjoint (w w₁ w₂ : Wallet) (u : Utxo) (bal : PKBalances) (a₁ f₁ a₂ f₂ : Nat)
    (r c : Bytes) (s₁ s₂ : List Bytes) (t₁ t₂ : Tx)
    (h₁ : w.createSpend u bal a₁ f₁ r c s₁ = .ok (w₁, t₁))
    (h₂ : w₁.createSpend u bal a₂ f₂ r c s₂ = .ok (w₂, t₂)) :
    ∀ i ∈ t₁.inputs, ∀ j ∈ t₂.inputs, i.ref ≠ j.ref := by
  intro i hi j hj hij
  apply (spend_record h₂).2 j hj
  rw [(spend_record h₁).1.1, ← hij]
  exact List.mem_append_right _ (List.mem_map_of_mem hi)

/-- `outs`: the outputs `create_spend_transaction` builds from a sufficient collection -/
theorem spendOutputs_spec (amount fee collected : Nat) (recipient change : Bytes) (hge : amount + fee ≤ collected) :
    let outs : List Output := [⟨amount, recipient⟩] ++
      (if collected = amount + fee then [] else [⟨collected - amount - fee, change⟩])
    outputsValue outs = collected - fee ∧ outs ≠ [] ∧
    ∀ o ∈ outs, o.value = amount ∨ (o.value = collected - amount - fee ∧ collected ≠ amount + fee) := by
  intro outs
  refine ⟨?_, List.cons_ne_nil _ _, fun o ho => ?_⟩
  · simp only [outs, outputsValue]
    split
    · simp only [List.append_nil, List.map_cons, List.map_nil, List.sum_cons, List.sum_nil]; omega
    · simp only [List.cons_append, List.nil_append, List.map_cons, List.map_nil, List.sum_cons, List.sum_nil]; omega
  · simp only [outs] at ho
    rcases List.mem_cons.1 ho with rfl | ho
    · exact .inl rfl
    · split at ho
      · cases ho
      · next hc => exact .inr ⟨by rw [List.mem_singleton.1 ho], hc⟩

/-- the returned transaction passes full transaction validation at the head, provided the
signatures verify, the references listed for the wallet's keys are distinct, the amounts are in
range, and its encoding fits in one block.
`_partial`: the size condition `hsize` is forced — a wallet that needs 1 979 or more small
outputs builds a transaction above MAX_BLOCK_SIZE (known finding D7). -/
theorem spend_valid_partial (cs : CoinState) (u : Utxo) (w w' : Wallet) (bal : PKBalances) (amount fee : Nat)
    (recipient change : Bytes) (sigs : List Bytes) (t : Tx)
    (hu : headUtxo cs = some u)
    (h : w.createSpend u bal amount fee recipient change sigs = .ok (w', t))
    (hnd : (w.candidates bal).Nodup)
    (hsig : ∀ n (hn : n < t.inputs.length) o s, u.get? t.inputs[n].ref = some o → t.inputs[n].sig = .secp s →
      C.verify o.pk (encTx (signable t)) s = true)
    (hamount : 0 < amount) (hmax : ∀ l : List OutRef, l.Nodup →
      (l.map (fun r => ((u.get? r).map (·.value)).getD 0)).sum ≤ P.maxSashimi)
    (hnull : ∀ r ∈ w.candidates bal, r ≠ thinAir)
    (hsize : (encTx t).length ≤ P.maxBlockSize) :
    validateTxByItself P (CTx.fresh t) = .ok () ∧ validateTxAtHead C cs (CTx.fresh t) = .ok () := by
  -- `spend_shape` gives the chosen outputs; their total `collected` is at most `maxSashimi` (`hmax` on the distinct chosen
  -- references) and `spendOutputs_spec` gives the output values; then each validator through its iff
  -- (`validateTxByItself_ok`, `validateInputs_eq_ok_iff`)
  obtain ⟨chosen, hs⟩ := spend_shape w w' u bal amount fee recipient change sigs t h
  generalize hcol : (chosen.map (·.2.value)).sum = collected at hs
  obtain ⟨hge, hout, hrefs, hsecp, hgk, _, _, _, _, _, hsub⟩ := hs
  have hnodup : (chosen.map (·.1)).Nodup := hsub.nodup hnd
  have hval := map_uval_chosen u chosen fun ro hro => (hgk ro hro).1
  have hsum : (t.inputs.map (fun i => ((u.get? i.ref).map (·.value)).getD 0)).sum = collected := by
    rw [← hcol, ← hval, ← hrefs, List.map_map]; rfl
  have hcmax : collected ≤ P.maxSashimi := by
    have := hmax _ hnodup
    rwa [hval, hcol] at this
  obtain ⟨hov, hone, hvals⟩ := spendOutputs_spec amount fee collected recipient change hge
  rw [← hout] at hov hone hvals
  have hinputs : ∀ i ∈ t.inputs, ∃ o s, u.get? i.ref = some o ∧ i.sig = .secp s ∧
      C.verify o.pk (encTx (signable t)) s = true := by
    intro i hi
    obtain ⟨n, hn, rfl⟩ := List.mem_iff_getElem.mp hi
    have hr : t.inputs[n].ref ∈ chosen.map (·.1) := hrefs ▸ List.mem_map_of_mem hi
    obtain ⟨ro, hro, hroe⟩ := List.mem_map.mp hr
    have hg : u.get? t.inputs[n].ref = some ro.2 := hroe ▸ (hgk ro hro).1
    cases hs : t.inputs[n].sig with
    | secp s => exact ⟨ro.2, s, hg, rfl, hsig n hn ro.2 s hg hs⟩
    | _ => have := hsecp _ hi; rw [hs] at this; cases this
  constructor
  · refine (validateTxByItself_ok P _).mpr ⟨fun hz => ?_, fun hz => hone (List.eq_nil_of_length_eq_zero hz), hsize,
      fun o ho => ?_, ?_, hrefs ▸ hnodup, fun i hi => ?_, hsecp⟩
    · have hz' : t.inputs = [] := List.eq_nil_of_length_eq_zero hz
      rw [hz'] at hsum
      change 0 = collected at hsum
      omega
    · have := hvals o ho; omega
    · show 0 < outputsValue t.outputs ∧ outputsValue t.outputs ≤ P.maxSashimi
      omega
    · exact hnull _ (hsub.subset (hrefs ▸ List.mem_map_of_mem hi))
  · rw [validateTxAtHead_of_headUtxo C hu]
    refine (bind_ok_iff ..).2 ⟨collected, (validateInputs_eq_ok_iff C u t t.inputs _).2 ⟨hinputs, hsum.symm⟩, ?_⟩
    rw [require_ok, decide_eq_true_eq]
    show outputsValue t.outputs ≤ collected
    omega

/-- non-vacuity: a concrete wallet where `createSpend` succeeds with exact change (100 − 60 − 5),
with no change output when the inputs match exactly, and fails on insufficient funds -/
example :
    let w : Wallet := ⟨[([1], [10])], [[1]], [], []⟩
    let u : Utxo := [(⟨[7], 0⟩, ⟨100, [1]⟩), (⟨[8], 0⟩, ⟨50, [1]⟩)]
    let bal : PKBalances := [([1], ⟨150, [⟨[7], 0⟩, ⟨[8], 0⟩]⟩)]
    w.createSpend u bal 60 5 [9] [1] [[5]] =
      .ok ({ w with spent := [⟨[7], 0⟩] }, ⟨[⟨⟨[7], 0⟩, .secp [5]⟩], [⟨60, [9]⟩, ⟨35, [1]⟩]⟩) ∧
    w.createSpend u bal 95 5 [9] [1] [[5]] =
      .ok ({ w with spent := [⟨[7], 0⟩] }, ⟨[⟨⟨[7], 0⟩, .secp [5]⟩], [⟨95, [9]⟩]⟩) ∧
    w.createSpend u bal 150 5 [9] [1] [[5], [6]] = .error (.other "Insufficient balance") := by
  refine ⟨?_, ?_, ?_⟩ <;> rfl

end C14
end Model
