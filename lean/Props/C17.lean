import Proofs.Merkle

/-!
# C17 — the merkle commitment binds the ordered transaction list; proofs verify

`h` is the node hash (`sha256d`); the only thing assumed of it is its output length (true of
SHA-256, not a cryptographic assumption). Cryptographic facts appear as the `Collision h`
disjunct. skepticoin, like Bitcoin, has no domain separation between leaves and inner nodes:
the `LeafIsInner` disjunct says so explicitly.
-/

namespace Model
namespace C17

variable (h : Bytes → Bytes)

/-- the inner-node hashes of a tree -/
def innerHashes : MNode → List Bytes
  | .leaf _ _ => []
  | .node i l r => (MNode.node i l r).hash h :: (innerHashes l ++ innerHashes r)

/-- an entry of one list is the hash of an inner node of the other list's tree -/
def LeafIsInner (t t' : MNode) : Prop :=
  (∃ v ∈ t.leaves.map (·.2), v ∈ innerHashes h t') ∨ (∃ v ∈ t'.leaves.map (·.2), v ∈ innerHashes h t)

/-- `get_merkle_root` terminates with a value on every non-empty list -/
theorem root_defined (l : List Bytes) (hl : l ≠ []) : ∃ r, merkleRoot h l = some r := by
  obtain ⟨t, _, hr, _⟩ := Merkle.tree_hash_eq_root h l hl
  exact ⟨_, hr⟩

/-- `get_merkle_tree` is defined on every non-empty list, has the entries as its leaves in
order (indexed 0, 1, …), and its hash is the root -/
theorem tree_hash_eq_root (l : List Bytes) (hl : l ≠ []) :
    ∃ t, merkleTree l = some t ∧ merkleRoot h l = some (t.hash h) ∧
      t.leaves = (List.range l.length).zip l :=
  Merkle.tree_hash_eq_root h l hl

theorem LeafIsInner.mono {s s' t t' : MNode} (hl : ∀ p ∈ s.leaves, p ∈ t.leaves)
    (hl' : ∀ p ∈ s'.leaves, p ∈ t'.leaves) (hi : ∀ v ∈ innerHashes h s, v ∈ innerHashes h t)
    (hi' : ∀ v ∈ innerHashes h s', v ∈ innerHashes h t') (li : LeafIsInner h s s') :
    LeafIsInner h t t' := by
  simp only [LeafIsInner, List.mem_map] at li ⊢
  rcases li with ⟨v, ⟨p, hp, e⟩, hv⟩ | ⟨v, ⟨p, hp, e⟩, hv⟩
  · exact .inl ⟨v, ⟨p, hl p hp, e⟩, hi' v hv⟩
  · exact .inr ⟨v, ⟨p, hl' p hp, e⟩, hi v hv⟩

/-- two trees with the same hash have the same leaf values in the same order, or a collision is exhibited, or a leaf of one is
an inner node of the other — which takes trees of different shapes, so it cannot happen between the trees of two lists of the
same length (`Merkle.shape_merkleTree`) -/
theorem tree_hash_injective_or_shapes_differ (hh : ∀ x, (h x).length = 32) (t t' : MNode)
    (hl : ∀ v ∈ t.leaves.map (·.2), v.length = 32) (hl' : ∀ v ∈ t'.leaves.map (·.2), v.length = 32)
    (he : t.hash h = t'.hash h) :
    t.leaves.map (·.2) = t'.leaves.map (·.2) ∨ Collision h ∨
      (LeafIsInner h t t' ∧ Merkle.shape t ≠ Merkle.shape t') := by
  induction t generalizing t' with
  | leaf i v =>
    cases t' with
    | leaf i' v' => exact .inl (congrArg (fun x => [x]) he)
    | node i' l' r' =>
      exact .inr (.inr ⟨.inl ⟨v, Merkle.leaf_value_mem i v, List.mem_cons.mpr (.inl he)⟩, nofun⟩)
  | node i l r ihl ihr =>
    cases t' with
    | leaf i' v' =>
      exact .inr (.inr ⟨.inr ⟨v', Merkle.leaf_value_mem i' v', List.mem_cons.mpr (.inl he.symm)⟩, nofun⟩)
    | node i' l' r' =>
      simp only [MNode.leaves, List.map_append, List.mem_append] at hl hl'
      have hll := fun v hv => hl v (.inl hv)
      have hll' := fun v hv => hl' v (.inl hv)
      have hlen : (l.hash h).length = (l'.hash h).length := by
        rw [Merkle.length_hash h hh l hll, Merkle.length_hash h hh l' hll']
      rcases Merkle.append_collision h _ _ _ _ hlen he with ⟨e1, e2⟩ | hc
      · rcases ihl l' hll hll' e1 with el | hc | ⟨li, hs⟩
        · rcases ihr r' (fun v hv => hl v (.inr hv)) (fun v hv => hl' v (.inr hv)) e2 with er | hc | ⟨li, hs⟩
          · exact .inl (by simp only [MNode.leaves, List.map_append, el, er])
          · exact .inr (.inl hc)
          · refine .inr (.inr ⟨li.mono h ?_ ?_ ?_ ?_, fun e => hs (MNode.node.inj e).2.2⟩) <;>
              simp +contextual [MNode.leaves, innerHashes]
        · exact .inr (.inl hc)
        · refine .inr (.inr ⟨li.mono h ?_ ?_ ?_ ?_, fun e => hs (MNode.node.inj e).2.1⟩) <;>
            simp +contextual [MNode.leaves, innerHashes]
      · exact .inr (.inl hc)

/-- two trees with the same hash have the same leaf values in the same order, or a collision
is exhibited, or a leaf of one is an inner node of the other -/
theorem tree_hash_injective (hh : ∀ x, (h x).length = 32) (t t' : MNode)
    (hl : ∀ v ∈ t.leaves.map (·.2), v.length = 32) (hl' : ∀ v ∈ t'.leaves.map (·.2), v.length = 32)
    (he : t.hash h = t'.hash h) :
    t.leaves.map (·.2) = t'.leaves.map (·.2) ∨ Collision h ∨ LeafIsInner h t t' :=
  (tree_hash_injective_or_shapes_differ h hh t t' hl hl' he).imp_right (.imp_right And.left)

/-- `root_injective` with the shapes of the two trees: what `root_injective_same_length` needs -/
theorem root_injective_or_shapes_differ (hh : ∀ x, (h x).length = 32) (l l' : List Bytes) (hl : l ≠ []) (hl' : l' ≠ [])
    (h32 : ∀ v ∈ l, v.length = 32) (h32' : ∀ v ∈ l', v.length = 32)
    (he : merkleRoot h l = merkleRoot h l') :
    l = l' ∨ Collision h ∨ ∃ t t', merkleTree l = some t ∧ merkleTree l' = some t' ∧
      LeafIsInner h t t' ∧ Merkle.shape t ≠ Merkle.shape t' := by
  obtain ⟨t, ht, hr, hlv⟩ := Merkle.tree_hash_eq_root h l hl
  obtain ⟨t', ht', hr', hlv'⟩ := Merkle.tree_hash_eq_root h l' hl'
  have e : t.leaves.map (·.2) = l := by rw [hlv, Merkle.map_snd_range_zip]
  have e' : t'.leaves.map (·.2) = l' := by rw [hlv', Merkle.map_snd_range_zip]
  rw [hr, hr'] at he
  rcases tree_hash_injective_or_shapes_differ h hh t t' (by rw [e]; exact h32) (by rw [e']; exact h32')
    (Option.some.inj he) with hleaves | hc | li
  · left; rw [← e, ← e', hleaves]
  · exact .inr (.inl hc)
  · exact .inr (.inr ⟨t, t', ht, ht', li⟩)

/-- the commitment changes whenever the ordered list of ids changes — by substitution,
reordering, removal, appending or duplication — unless a collision is exhibited or an entry of
one list is an inner hash of the other's tree -/
theorem root_injective (hh : ∀ x, (h x).length = 32) (l l' : List Bytes) (hl : l ≠ []) (hl' : l' ≠ [])
    (h32 : ∀ v ∈ l, v.length = 32) (h32' : ∀ v ∈ l', v.length = 32)
    (he : merkleRoot h l = merkleRoot h l') :
    l = l' ∨ Collision h ∨
      ∃ t t', merkleTree l = some t ∧ merkleTree l' = some t' ∧ LeafIsInner h t t' :=
  (root_injective_or_shapes_differ h hh l l' hl hl' h32 h32' he).imp_right <| .imp_right
    fun ⟨t, t', ht, ht', li, _⟩ => ⟨t, t', ht, ht', li⟩

/-- same length (substitution, reordering): no inner/leaf confusion is possible -/
theorem root_injective_same_length (hh : ∀ x, (h x).length = 32) (l l' : List Bytes) (hl : l ≠ [])
    (hlen : l.length = l'.length)
    (h32 : ∀ v ∈ l, v.length = 32) (h32' : ∀ v ∈ l', v.length = 32)
    (he : merkleRoot h l = merkleRoot h l') : l = l' ∨ Collision h := by
  have hl' : l' ≠ [] := fun e => hl (List.eq_nil_of_length_eq_zero (by rw [hlen, e]; rfl))
  rcases root_injective_or_shapes_differ h hh l l' hl hl' h32 h32' he with e | hc | ⟨t, t', ht, ht', _, hs⟩
  · exact .inl e
  · exact .inr hc
  · exact absurd (Merkle.shape_merkleTree hlen ht ht') hs

/-- in particular duplicating the last entry (the construction that was exploitable in
Bitcoin) changes the commitment, up to the stated disjuncts -/
theorem duplicate_last_changes_root (hh : ∀ x, (h x).length = 32) (l : List Bytes) (x : Bytes)
    (h32 : ∀ v ∈ l ++ [x], v.length = 32)
    (he : merkleRoot h (l ++ [x]) = merkleRoot h (l ++ [x, x])) :
    Collision h ∨ ∃ t t', merkleTree (l ++ [x]) = some t ∧ merkleTree (l ++ [x, x]) = some t' ∧
      LeafIsInner h t t' := by
  have hne : l ++ [x] ≠ l ++ [x, x] := fun e => by simpa using congrArg List.length e
  have h32' : ∀ v ∈ l ++ [x, x], v.length = 32 := fun v hv => h32 v (by simpa using hv)
  rcases root_injective h hh (l ++ [x]) (l ++ [x, x]) (by simp) (by simp) h32 h32' he with
    e | hc | li
  · exact absurd e hne
  · exact .inl hc
  · exact .inr li

/-- the odd entry is promoted, not paired with itself -/
theorem odd_entry_promoted (a b c : Bytes) :
    merkleRoot h [a, b, c] = some (h (h (a ++ b) ++ c)) := by
  rfl

/-- the proof the node produces reproduces the commitment … -/
theorem proof_reproduces_root (t : MNode) (i : Nat) : (getProof h t i).hash h = t.hash h := by
  -- the ends of `getProof`: 1 a leaf, 2 the path goes on to the right and `l` is collapsed to its hash, 3 to the left
  fun_induction getProof h t i with
  | case1 => rfl
  | case2 | case3 => simp [MNode.hash, *]

/-- … and contains the entry at the requested position -/
theorem proof_contains_entry (l : List Bytes) (hl : l ≠ []) (i : Nat) (hi : i < l.length) (t : MNode)
    (ht : merkleTree l = some t) :
    (i, l[i]) ∈ (getProof h t i).leaves := by
  obtain ⟨t₀, ht₀, _, hlv⟩ := Merkle.tree_hash_eq_root h l hl
  cases ht.symm.trans ht₀
  refine Merkle.getProof_mem h (Merkle.indexed_merkleTree l t ht) ?_ i l[i] ?_ <;> rw [hlv]
  · refine (List.pairwise_map (f := Prod.fst) (R := (· < ·))).mp ?_
    rw [List.map_fst_zip (by simp)]
    exact List.pairwise_lt_range
  · exact List.mem_iff_getElem.mpr ⟨i, by simpa using hi, by simp⟩

theorem proof_sound (l : List Bytes) (hl : l ≠ []) (i : Nat) (hi : i < l.length) :
    ∃ t, merkleTree l = some t ∧ merkleRoot h l = some ((getProof h t i).hash h) ∧
      (i, l[i]) ∈ (getProof h t i).leaves := by
  obtain ⟨t, ht, hr, _⟩ := Merkle.tree_hash_eq_root h l hl
  refine ⟨t, ht, ?_, proof_contains_entry h l hl i hi t ht⟩
  rw [proof_reproduces_root]; exact hr

/-- a concrete (non-cryptographic) hash with 32-byte output -/
def sumHash : Bytes → Bytes := fun x => List.replicate 32 (x.foldl (· + ·) 0)

theorem sumHash_len : ∀ x, (sumHash x).length = 32 := fun _ => List.length_replicate

/-- the hypothesis `hh` is satisfiable -/
example : ∀ x, (sumHash x).length = 32 := sumHash_len

/-- concrete evaluations: the odd third entry is promoted, then hashed with the first pair -/
example : merkleRoot sumHash [[1], [2], [3]] = some (List.replicate 32 99) := by decide

example : merkleRoot sumHash [] = none := by decide

example : (merkleTree [[1], [2], [3]]).map (·.leaves) = some [(0, [1]), (1, [2]), (2, [3])] := by
  decide

example : (merkleTree [[1], [2], [3]]).map (fun t => (getProof sumHash t 2).leaves) =
    some [(0, List.replicate 32 3), (2, [3])] := by decide

/-- the hypotheses of `root_injective_same_length` are jointly satisfiable (32-byte entries,
equal lengths, equal roots) and the theorem applies -/
example : [zeros 32, zeros 32] = [zeros 32, zeros 32] ∨ Collision sumHash :=
  root_injective_same_length sumHash sumHash_len [zeros 32, zeros 32]
    [zeros 32, zeros 32] (by simp) rfl (by simp [zeros]) (by simp [zeros]) rfl

/-- the `Collision` disjunct is not idle: for a non-injective hash two different same-length
lists of 32-byte entries do share a root -/
example : merkleRoot sumHash [zeros 32, List.replicate 32 1] =
    merkleRoot sumHash [List.replicate 32 1, zeros 32] := by decide +kernel

example : [zeros 32, List.replicate 32 1] ≠ [List.replicate 32 1, zeros 32] := by decide

end C17
end Model
