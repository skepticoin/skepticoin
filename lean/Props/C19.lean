import Gen.Params
import Proofs.Book
import Proofs.FS

/-!
# C19 — the peer book stays consistent and reconnects with bounded back-off

`Book.run P b evs`: the peer book after a sequence of network-manager events (manager steps at
given clock values, incoming connections, greetings, peer announcements, connections closing).
-/

namespace Model
namespace C19

variable (P : Params)

/-- no peer address is recorded both as connected and as waiting for reconnection — the
condition whose violation makes `_sanity_check` raise and stops the node's network loop -/
def Disjoint (b : Book) : Prop := ∀ k, b.connected.contains k = true → b.disconnected.contains k = false

theorem disconnect_preserves (b : Book) (k : PeerKey) (s : Nat) (h : Disjoint b) : Disjoint (b.disconnect k s) :=
  -- `Disjoint` is, word for word, `Book.Disj` of Proofs/Book.lean, whose lemmas apply as they are
  Book.Disj.disconnect h k s

/-- also at the point inside `handle_peer_connected` where `_sanity_check` runs -/
theorem peerConnected_preserves (b : Book) (k : PeerKey) (p : ConnPeer) (h : Disjoint b) :
    Disjoint (b.peerConnected k p) :=
  Book.Disj.peerConnected h k p

theorem apply_preserves (b : Book) (ev : BookEvent) (h : Disjoint b) : Disjoint (Book.apply P b ev) :=
  -- `Book.Stable P G I`: `I` is kept by every elementary update, greetings being restricted to keys satisfying `G` — here
  -- to any key; `Stable.apply` / `.run` then ask that the events greet such keys only, and `.run'` is `.run` for this `G`
  (Book.Disj.stable P fun _ => True).apply h ev fun _ _ _ _ => trivial

/-- across any sequence of connects, disconnects, greetings and announcements, starting from a
book with nobody connected (whatever the peers file held) -/
theorem book_disjoint (b₀ : Book) (h₀ : b₀.connected = []) (evs : List BookEvent) :
    Disjoint (Book.run P b₀ evs) :=
  (Book.Disj.stable P _).run' (Book.Disj.of_connected_nil h₀) evs

theorem never_insane (b₀ : Book) (h₀ : b₀.connected = []) (evs : List BookEvent) :
    (Book.run P b₀ evs).insane = false :=
  Book.Disj.not_insane (book_disjoint P b₀ h₀ evs)

/-- the time of the most recent logged attempt to `k`, if any -/
def lastAttemptTo (log : List (PeerKey × Int × Nat)) (k : PeerKey) : Option Int :=
  (log.find? (·.1 = k)).map (·.2.1)

/-- a book as loaded at start-up: nobody connected, no attempt made yet -/
def Fresh (b : Book) : Prop :=
  b.connected = [] ∧ b.attempts = [] ∧ ∀ k d, b.disconnected.get? k = some d → d.lastAttempt = none

/-- every attempt respects the back-off with respect to the previous attempt to the same
address: for the log split as `newer ++ (k, t₂, ban) :: older`, with `t₁` the most recent earlier
attempt to `k`: `t₂ − t₁ ≥ min (10 s · 2^ban) 30 min` (with the constants of `P`), and no attempt
is made beyond the configured number of failures -/
theorem backoff (b₀ : Book) (h₀ : Fresh b₀) (evs : List BookEvent)
    (newer older : List (PeerKey × Int × Nat)) (k : PeerKey) (t₂ : Int) (ban : Nat)
    (hlog : (Book.run P b₀ evs).attempts = newer ++ (k, t₂, ban) :: older) :
    ban ≤ P.maxConnectionAttempts ∧ k.outgoing = true ∧
    ∀ t₁, lastAttemptTo older k = some t₁ →
      t₂ - t₁ ≥ (min (P.timeToSecondAttempt * 2 ^ ban) P.maxTimeBetweenAttempts : Nat) := by
  have hinv : Book.LastInv P (Book.run P b₀ evs) :=
    (Book.LastInv.stable P _).run' (Book.LastInv.of_fresh h₀.1 h₀.2.1 h₀.2.2) evs
  exact hinv.spaced.split newer older k t₂ ban hlog

/-- the ban score counts consecutive outgoing connections that ended without a greeting: a
disconnect without greeting adds one, a greeting resets it -/
theorem ban_score_counts (b : Book) (k : PeerKey) (p : ConnPeer) (hk : k.outgoing = true)
    (hg : b.connected.get? k = some p) (hr : p.registered = true) :
    (b.disconnect k p.serial).disconnected.get? k =
      some ⟨p.lastAttempt, if p.helloReceived then p.banScore else p.banScore + 1⟩ := by
  rw [Book.disconnect_eq hg hr, Book.peerDisconnected_eq]
  simp only [hk, ↓reduceIte]
  exact Map.get?_set_self _ _ _

theorem greeting_resets_ban (b : Book) (k : PeerKey) (p : ConnPeer) (myPort : Nat)
    (hg : b.connected.get? k = some p) :
    ∀ p', (Book.apply P b (.hello k false myPort)).connected.get? k = some p' → p'.banScore = 0 := by
  intro p' hp'
  have hc : (Book.apply P b (.hello k false myPort)).connected =
      b.connected.set k { p with helloReceived := true, banScore := 0 } := by
    simp only [Book.apply, hg]
    split
    · exact Book.connected_announce _ _ _
    · rfl
  rw [hc, Map.get?_set_self] at hp'
  cases hp'; rfl

theorem apply_hello_self (b : Book) (k : PeerKey) (p : ConnPeer) (myPort : Nat)
    (hk : k.outgoing = true) (hg : b.connected.get? k = some p) :
    Book.apply P b (.hello k true myPort) = Book.disconnect
      { b with connected := b.connected.set k { p with helloReceived := true, banScore := 0 },
               myAddresses := (k.host, k.port) :: b.myAddresses } k p.serial := by
  simp only [Book.apply, hg, hk]
  rfl

/-- a connection to the node itself is detected, dropped and not retried -/
theorem self_connection_dropped (b : Book) (k : PeerKey) (p : ConnPeer) (myPort : Nat)
    (hk : k.outgoing = true) (hg : b.connected.get? k = some p) (hr : p.registered = true) :
    let b' := Book.apply P b (.hello k true myPort)
    b'.connected.contains k = false ∧ (k.host, k.port) ∈ b'.myAddresses := by
  intro b'
  have hd : b' = Book.peerDisconnected
      { b with connected := b.connected.set k { p with helloReceived := true, banScore := 0 },
               myAddresses := (k.host, k.port) :: b.myAddresses } k
        { p with helloReceived := true, banScore := 0 } :=
    (apply_hello_self P b k p myPort hk hg).trans
      (Book.disconnect_eq (p := { p with helloReceived := true, banScore := 0 }) (Map.get?_set_self _ _ _) hr)
  rw [hd, Book.peerDisconnected_eq]
  exact ⟨(Map.contains_eq_false_iff _ _).2 (Map.get?_erase_self _ _), List.mem_cons_self⟩

/-- once `(host, port)` of `k` is one of the node's own addresses, no new attempt to `k` is ever
logged, whatever happens afterwards: the entries of the attempt log (a history variable, newest
first) that concern `k` are, after any sequence of events, exactly those that were there before
(in particular the attempt through which the address was learnt stays the last one), and the
address stays recorded as the node's own. Nothing is assumed about the log of `b`: it may, and for
every reachable book with an own address does, contain earlier attempts to `k`. -/
theorem self_address_not_retried (b : Book) (k : PeerKey) (hmine : (k.host, k.port) ∈ b.myAddresses)
    (evs : List BookEvent) :
    (Book.run P b evs).attempts.filter (fun e => decide (e.1 = k)) = b.attempts.filter (fun e => decide (e.1 = k)) ∧
    (k.host, k.port) ∈ (Book.run P b evs).myAddresses := by
  have h := (Book.SelfInv'.stable P _ k _).run' ⟨hmine, rfl⟩ evs
  exact ⟨h.2, h.1⟩

/-- `self_connection_dropped` composed with `self_address_not_retried`: after the greeting carrying
the node's own nonce on a registered outgoing connection `k`, for every later sequence of events
the logged attempts to `k` are exactly those logged before the greeting — in particular their
number stays what it was: the node never dials `k` again -/
theorem self_connection_never_retried (b : Book) (k : PeerKey) (p : ConnPeer) (myPort : Nat)
    (hk : k.outgoing = true) (hg : b.connected.get? k = some p) (hr : p.registered = true)
    (evs : List BookEvent) :
    let b' := Book.apply P b (.hello k true myPort)
    (Book.run P b' evs).attempts.filter (fun e => decide (e.1 = k)) = b.attempts.filter (fun e => decide (e.1 = k)) ∧
    ((Book.run P b' evs).attempts.filter (fun e => decide (e.1 = k))).length =
      (b.attempts.filter (fun e => decide (e.1 = k))).length := by
  intro b'
  have hmine : (k.host, k.port) ∈ b'.myAddresses := (self_connection_dropped P b k p myPort hk hg hr).2
  have h := (self_address_not_retried P b' k hmine evs).1
  have ha : b'.attempts = b.attempts :=
    (congrArg Book.attempts (apply_hello_self P b k p myPort hk hg)).trans (Book.disconnect_keeps_log_addrs _ _ _).1
  rw [ha] at h
  exact ⟨h, by rw [h]⟩

/-- an announced peer never overwrites a known one -/
theorem announced_never_overwrite (b : Book) (host : String) (port : Nat)
    (hknown : b.disconnected.contains ⟨host, port, true⟩ = true ∨ b.connected.contains ⟨host, port, true⟩ = true) :
    b.announce host port = b := by
  simp only [Book.announce]
  rcases hknown with h | h
  · rw [if_pos h]
  · rw [if_pos h]; split <;> rfl

/-- at most 100 entries (with the regenerated constant), most recent first, no duplicate key -/
theorem peers_file_shape (old : List (PeerKey × String)) (k : PeerKey) (stamp : String)
    (hnd : (old.map (·.1)).Nodup) :
    (writePeersContent P old k stamp).length ≤ P.peersFileMax ∧
    ((writePeersContent P old k stamp).map (·.1)).Nodup ∧
    (0 < P.peersFileMax → (writePeersContent P old k stamp).head? = some (k, stamp)) :=
  ⟨writePeers_length P old k stamp, writePeers_nodup P old k stamp hnd,
    writePeers_head P old k stamp⟩

theorem peers_file_production_limit : Gen.params.peersFileMax = 100 := by decide

/-- the file is replaced atomically with respect to process crashes: after every prefix of the
operations of a save — for every chunking of the content into writes — the file holds either the
complete previous or the complete new content, and the new one at the end -/
theorem save_atomic (fs : FS) (final : String) (chunks : List Bytes) (n : Nat) :
    let fs' := ((saveOps final chunks).take n).foldl FS.apply fs
    (fs'.read final = fs.read final ∨ fs'.read final = some chunks.flatten) ∧
    (n ≥ (saveOps final chunks).length → fs'.read final = some chunks.flatten) :=
  saveOps_atomic fs final chunks n

/-- fixed constants for the examples (the networking ones as in production: 10 s, 30 min) -/
def exParams : Params :=
  { maxSashimi := 1, maxBlockSize := 1, maxFutureBlockTime := 1, maxCoinbaseData := 1,
    retargetInterval := 1, retargetTimespan := 1, halvingInterval := 1, initialSubsidy := 1,
    sampleCount := 1, sampleSize := 1, maxKnownHeight := -1, knownHashes := [],
    inventorySize := 1, ibdValidationSkip := 1, maxMessageSize := 1,
    timeToSecondAttempt := 10, maxTimeBetweenAttempts := 1800, maxConnectionAttempts := 32,
    getPeersInterval := 1, peersFileMax := 100 }

def exKey : PeerKey := ⟨"10.0.0.1", 2412, true⟩

/-- a book as loaded from a peers file with one address -/
def exBook : Book := ⟨[], [(exKey, ⟨none, 0⟩)], [], [], 0⟩

theorem exBook_fresh : Fresh exBook := by
  refine ⟨rfl, rfl, ?_⟩
  intro k d h
  simp only [exBook, Map.get?_cons, Map.get?_nil] at h
  split at h
  · cases h; rfl
  · cases h

example : Fresh exBook := exBook_fresh

/-- first attempt at 100; the connection closes without a greeting (ban score 1, back-off 20 s):
no attempt at 105 nor at 111 -/
example : (Book.run exParams exBook [.step 100, .close exKey, .step 105, .step 111]).attempts
    = [(exKey, 100, 0)] := by decide

/-- … nor at 119; the second attempt happens at 120 and not again at 121 (it is connected) -/
example : (Book.run exParams exBook
      [.step 100, .close exKey, .step 105, .step 111, .step 119, .step 120, .step 121]).attempts
    = [(exKey, 120, 1), (exKey, 100, 0)] := by decide

/-- in between the peer is recorded as waiting with ban score 1 and is not connected -/
example : (Book.run exParams exBook [.step 100, .close exKey]).disconnected.get? exKey = some ⟨some 100, 1⟩ ∧
    (Book.run exParams exBook [.step 100, .close exKey]).connected.contains exKey = false := by decide

/-- a greeting resets the ban score: after it a close leaves ban score 0 and the retry comes after 10 s -/
example : (Book.run exParams exBook
      [.step 100, .hello exKey false 2412, .close exKey, .step 109, .step 110]).attempts
    = [(exKey, 110, 0), (exKey, 100, 0)] := by decide

/-- a connection to oneself is not retried -/
example : (Book.run exParams exBook
      [.step 100, .hello exKey true 2412, .step 5000, .step 10000]).attempts = [(exKey, 100, 0)] := by decide

/-- `self_address_not_retried` applied to a reachable book: the one after the dial at 100 and the
greeting with the own nonce; its log does contain the attempt to `exKey` (so the hypothesis is
satisfied by a book whose log is not free of `exKey`), and the conclusion says the later steps
add none -/
example : ((Book.run exParams (Book.run exParams exBook [.step 100, .hello exKey true 2412])
      [.step 5000, .close exKey, .step 10000]).attempts.filter (fun e => decide (e.1 = exKey)))
    = [(exKey, 100, 0)] :=
  (self_address_not_retried exParams (Book.run exParams exBook [.step 100, .hello exKey true 2412]) exKey
    (by decide) [.step 5000, .close exKey, .step 10000]).1.trans (by decide)

/-- `self_connection_never_retried` applied: the book after the dial at 100 satisfies the hypotheses
of `self_connection_dropped`, and one attempt to `exKey` is logged then and ever after -/
example : ((Book.run exParams (Book.apply exParams (Book.run exParams exBook [.step 100]) (.hello exKey true 2412))
      [.step 5000, .step 10000]).attempts.filter (fun e => decide (e.1 = exKey))).length = 1 :=
  (self_connection_never_retried exParams (Book.run exParams exBook [.step 100]) exKey
    ⟨some 100, 0, false, true, 0⟩ 2412 rfl (by decide) rfl [.step 5000, .step 10000]).2.trans (by decide)

/-- the hypotheses of `backoff` are satisfiable with a non-trivial split of the log -/
example : (120 : Int) - 100 ≥ (min (exParams.timeToSecondAttempt * 2 ^ 1) exParams.maxTimeBetweenAttempts : Nat) :=
  (backoff exParams exBook exBook_fresh
    [.step 100, .close exKey, .step 105, .step 111, .step 119, .step 120, .step 121]
    [] [(exKey, 100, 0)] exKey 120 1 (by decide)).2.2 100 (by decide)

/-- the peers file: the refreshed peer moves to the front, its older entry is dropped -/
example : writePeersContent exParams [(⟨"a", 1, true⟩, "t1"), (exKey, "t0")] exKey "t2"
    = [(exKey, "t2"), (⟨"a", 1, true⟩, "t1")] := by decide

/-- a save interrupted after the first two operations leaves the old content in place -/
example : (((saveOps "peers.json" [[1], [2]]).take 2).foldl FS.apply [("peers.json", [9])]).read "peers.json"
    = some [9] := by decide

example : ((saveOps "peers.json" [[1], [2]]).foldl FS.apply [("peers.json", [9])]).read "peers.json"
    = some [1, 2] := by decide

end C19
end Model
