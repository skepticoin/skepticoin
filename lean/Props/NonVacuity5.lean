import Props.NonVacuity1
import Props.C04
import Props.C09Stored

/-!
# NonVacuity5 — C09Stored

The hypotheses of `Props/C09Stored.lean` on a concrete node: chain state {G, A} (genesis and one block), both in
the store (a store is created with the genesis in it), the state validated, nothing buffered; the node's miner finds a block.
-/

namespace NonVacuity5
open Model NonVacuity1

/-- the node of `NonVacuity1` after start-up: its state counts as validated -/
def nS : Node := { n0 with mgr := { m2 with lastValid := some sGA } }

/-- the served state holds the blocks of its history `[G, A]`, which is what the store holds -/
theorem sGA_on_disk (id : Bytes) (h : sGA.blocks.contains id = true) : C09.onDisk nvC nS id := by
  obtain ⟨b, hb⟩ := (Map.contains_eq_true_iff _ _).1 h
  exact ⟨b, (C04.blocks_are_history nvC [G, A] sGA wfGA foldGA id b).1 hb⟩

/-- `Stored` holds of the started node … -/
theorem nS_stored : C09.Stored nvC nS :=
  ⟨rfl, fun id h => .inl (sGA_on_disk id h), fun lv hlv => Option.some.inj (hlv : some sGA = some lv) ▸ sGA_on_disk⟩

/-- … hence of the node after its miner found the block of `NonVacuity1` (`stored_minerFound`), … -/
theorem found_stored : C09.Stored nvC (minerFound nvC nvP nS sGA cS cH cTxs (summaryHash nvC cS cH) 0).1.1 :=
  C09.stored_minerFound nvC nvP nS sGA cS cH cTxs (summaryHash nvC cS cH) 0 nS_stored (fun id h => .inl (sGA_on_disk id h))

example : C09.Stored nvC (minerFound nvC nvP nS sGA cS cH cTxs (summaryHash nvC cS cH) 0).1.1 := found_stored

/-- … the found block did enter the served state (the statement is not about an unchanged node), … -/
example : (minerFound nvC nvP nS sGA cS cH cTxs (summaryHash nvC cS cH) 0).1.1.mgr.coinstate.blocks.keys.length = 3 := by
  rw [found_ok nS]
  exact B_run.2.2.2

/-- … and after any further history and a shutdown every block of the served state is in the store -/
example (tr : List C20.Ev) (id : Bytes) :=
  C09.served_blocks_survive_restart nvC nvP _ tr found_stored id

end NonVacuity5
