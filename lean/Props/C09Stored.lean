import Props.C13
import Proofs.Contain
import Proofs.Mining

/-!
# C08 / C09 at node level: whatever the peers send, the store keeps up with the chain state

`Props/C09.lean` shows per delivery that an accepted block is written to the store; `Props/C08.lean` that the store returns what
was written. This file closes the gap between the two for whole histories of a running node: across *any* sequence of events on
any connections — unsolicited blocks, blocks adopted unvalidated during a bulk download (which only reach the write buffer),
refused blocks (which roll the node back to its last validated state and drop the write buffer), garbage — every block of the
chain state the node serves is in the store or waiting in its write buffer, and every block of the last validated state is in
the store. Hence after a flush (shutdown) the store holds every block of the served state: a restarted node loses nothing.
-/

namespace Model

/-- served state, last validated state, write buffer and store are the same -/
def SameStore (n n' : Node) : Prop :=
  n'.mgr.coinstate = n.mgr.coinstate ∧ n'.mgr.lastValid = n.mgr.lastValid ∧ n'.wbuf = n.wbuf ∧ n'.disk = n.disk

theorem SameStore.trans {a b d : Node} (h1 : SameStore a b) (h2 : SameStore b d) : SameStore a d :=
  ⟨h2.1.trans h1.1, h2.2.1.trans h1.2.1, h2.2.2.1.trans h1.2.2.1, h2.2.2.2.trans h1.2.2.2⟩

theorem SameStore.of_eqExcept {n n' : Node} {c : Nat} (h : EqExceptAt c n' n) : SameStore n n' :=
  ⟨congrArg _ h.1, congrArg _ h.1, h.2.1, h.2.2.1⟩

theorem SameStore.disconnect (n : Node) (c : Nat) : SameStore n (n.disconnect c) := ⟨rfl, rfl, rfl, rfl⟩

theorem SameStore.broadcast (n : Node) (o : Out) : SameStore n (n.broadcast o) := ⟨rfl, rfl, rfl, rfl⟩

theorem SameStore.updatePeer (n : Node) (c : Nat) (f : PeerSt → PeerSt) : SameStore n (n.updatePeer c f) := ⟨rfl, rfl, rfl, rfl⟩

theorem SameStore.of_pool (n : Node) (pool : List CTx) : SameStore n { n with mgr := { n.mgr with pool := pool } } :=
  ⟨rfl, rfl, rfl, rfl⟩

namespace C09

variable (C : Crypto) (P : Params)

def onDisk (n : Node) (id : Bytes) : Prop := ∃ x ∈ n.disk, x.id C = id
def buffered (n : Node) (id : Bytes) : Prop := ∃ x ∈ n.wbuf, x.id C = id

/-- the store keeps up with the chain state -/
structure Stored (n : Node) : Prop where
  /-- a last validated state exists (it is set when the node starts and never reset) -/
  hasValidated : n.mgr.lastValid.isSome = true
  /-- every block of the served state is in the store or in its write buffer -/
  served : ∀ id, n.mgr.coinstate.blocks.contains id = true → onDisk C n id ∨ buffered C n id
  /-- every block of the last validated state is in the store -/
  validated : ∀ lv, n.mgr.lastValid = some lv → ∀ id, lv.blocks.contains id = true → onDisk C n id

theorem stored_of_sameStore {n n' : Node} (hs : SameStore n n') (h : Stored C n) : Stored C n' := by
  obtain ⟨h1, h2, h3, h4⟩ := hs
  refine ⟨by rw [h2]; exact h.hasValidated, ?_, ?_⟩
  · intro id hid
    rw [h1] at hid
    rcases h.served id hid with ⟨x, hx, hxi⟩ | ⟨x, hx, hxi⟩
    · exact .inl ⟨x, by rw [h4]; exact hx, hxi⟩
    · exact .inr ⟨x, by rw [h3]; exact hx, hxi⟩
  · intro lv hlv id hid
    rw [h2] at hlv
    obtain ⟨x, hx, hxi⟩ := h.validated lv hlv id hid
    exact ⟨x, by rw [h4]; exact hx, hxi⟩

theorem onDisk_flush (n : Node) (id : Bytes) (h : onDisk C n id ∨ buffered C n id) : onDisk C (Node.flush C n) id := by
  rcases h with ⟨x, hx, hxi⟩ | ⟨x, hx, hxi⟩
  · exact ⟨x, flush_foldl_mono C x n.wbuf n.disk hx, hxi⟩
  · obtain ⟨y, hy, hyi⟩ := flush_foldl_buffered C x n.wbuf n.disk hx
    exact ⟨y, hy, hyi.trans hxi⟩

theorem held_after_add (n : Node) (cs changed : CoinState) (b : Block)
    (hcs : ∀ id, cs.blocks.contains id = true → onDisk C n id ∨ buffered C n id)
    (hadd : addBlockNoValidation C cs b = .ok changed) (id : Bytes) (hid : changed.blocks.contains id = true) :
    onDisk C n id ∨ ∃ x ∈ n.wbuf ++ [b], x.id C = id := by
  rw [add_ok_contains C hadd id] at hid
  simp only [Bool.or_eq_true, decide_eq_true_eq] at hid
  rcases hid with hid | hid
  · exact .inr ⟨b, List.mem_append_right _ (List.mem_singleton.mpr rfl), hid⟩
  · rcases hcs id hid with hx | ⟨x, hx, hxi⟩
    · exact .inl hx
    · exact .inr ⟨x, List.mem_append_left _ hx, hxi⟩

theorem stored_of_accepted (n n' : Node) (cs changed : CoinState) (b : Block)
    (hcs : ∀ id, cs.blocks.contains id = true → onDisk C n id ∨ buffered C n id)
    (hadd : addBlockNoValidation C cs b = .ok changed)
    (h1 : n'.mgr.coinstate = changed) (h2 : n'.mgr.lastValid = some changed)
    (hd : n'.disk = (Node.flush C { n with wbuf := n.wbuf ++ [b] }).disk) : Stored C n' := by
  have key : ∀ id, changed.blocks.contains id = true → onDisk C n' id := by
    intro id hid
    obtain ⟨x, hx, hxi⟩ := onDisk_flush C { n with wbuf := n.wbuf ++ [b] } id (held_after_add C n cs changed b hcs hadd id hid)
    exact ⟨x, by rw [hd]; exact hx, hxi⟩
  refine ⟨by rw [h2]; rfl, fun id hid => .inl (key id (h1 ▸ hid)), ?_⟩
  intro lv2 hlv2 id hid
  rw [h2] at hlv2
  cases hlv2
  exact key id hid

theorem stored_handleBlockReceived (n : Node) (c r : Nat) (b : Block) (now : Int) (h : Stored C n) :
    Stored C (handleBlockReceived C P n c r b now).1 := by
  have hspec := blockVerdict_spec C P n.mgr.coinstate r b now
  have hsame : Stored C (n.updatePeer c fun p => { p with pendingInventory := p.pendingInventory.erase (b.id C) }) :=
    stored_of_sameStore C (.updatePeer n c _) h
  rw [handleBlockReceived_eq]
  cases hv : blockVerdict C P n.mgr.coinstate r b now with
  | ignore => exact hsame
  | raise e => exact hsame
  | refuse =>
    -- back to the last validated state, all of whose blocks are in the store
    obtain ⟨lv, hlv⟩ := Option.isSome_iff_exists.mp h.hasValidated
    simp only [BlockVerdict.exec, fallBack_some C hlv]
    refine ⟨rfl, fun id hid => .inl (h.validated lv hlv id hid), ?_⟩
    intro lv2 hlv2 id hid
    cases hlv2
    exact h.validated lv hlv id hid
  | accept changed relay =>
    rw [hv] at hspec
    obtain ⟨-, -, hadd, -⟩ := hspec
    cases relay <;> exact stored_of_accepted C n _ n.mgr.coinstate changed b h.served hadd rfl rfl rfl
  | adopt changed =>
    rw [hv] at hspec
    obtain ⟨-, hadd, -⟩ := hspec
    exact ⟨h.hasValidated, held_after_add C n _ changed b h.served hadd, h.validated⟩

/-- one event of any kind on any connection -/
theorem stored_handleEvent (n : Node) (c : Nat) (ev : Incoming) (now : Int) (h : Stored C n) :
    Stored C (handleEvent C P n c ev now) := by
  refine handleEvent_inv C P n c ev now (fun hs => stored_of_sameStore C (.of_eqExcept hs))
    (fun r b => stored_handleBlockReceived C P n c r b now h) (fun t m' hm' => ?_) h
  -- admitting a transaction changes the pool only
  rw [(C13.admitted_only_if_valid_and_compatible C P n.mgr m' t hm').2.2.2]
  exact stored_of_sameStore C ((SameStore.of_pool n _).trans (.broadcast _ _)) h

/-- a block found by the node's own miner (on a state `cs` all of whose blocks the store or its buffer holds) -/
theorem stored_minerFound (n : Node) (cs : CoinState) (s : Summary) (height : Nat) (txs : List CTx) (summaryHash : Bytes)
    (now : Int) (h : Stored C n)
    (hcs : ∀ id, cs.blocks.contains id = true → onDisk C n id ∨ buffered C n id) :
    Stored C (minerFound C P n cs s height txs summaryHash now).1.1 := by
  rcases minerFound_cases C P n cs s height txs summaryHash now with ⟨_, _, h'⟩ | h' | ⟨b, cs', hok, h'⟩ <;> rw [h']
  · exact h
  · exact h
  · exact stored_of_accepted C n _ cs cs' b hcs (addBlock_accepted hok).2.2 rfl rfl rfl

/-- every history of events -/
theorem stored_run (n : Node) (tr : List C20.Ev) (h : Stored C n) : Stored C (C20.run C P n tr) :=
  C20.run_ind C P (stored_handleEvent C P) n tr h

/-- **a restart loses nothing**: after any history and a flush, every block of the served chain state is in the store -/
theorem served_blocks_survive_restart (n : Node) (tr : List C20.Ev) (h : Stored C n) (id : Bytes)
    (hid : (C20.run C P n tr).mgr.coinstate.blocks.contains id = true) :
    onDisk C (Node.flush C (C20.run C P n tr)) id :=
  onDisk_flush C _ id ((stored_run C P n tr h).served id hid)

/-! ### non-vacuity: a freshly started node (empty chain state, validated, nothing buffered) -/

private def fresh : Node := ⟨⟨CoinState.empty, [], some CoinState.empty⟩, [], [], [⟨true, false, true, true, [], false, []⟩], 7⟩

example : Stored C fresh := by
  refine ⟨rfl, ?_, ?_⟩
  · intro id hid
    exact absurd hid (by simp [fresh, CoinState.empty, Map.contains])
  · intro lv hlv id hid
    simp only [fresh, Option.some.injEq] at hlv
    subst hlv
    exact absurd hid (by simp [CoinState.empty, Map.contains])

end C09
end Model
