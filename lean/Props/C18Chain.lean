import Props.C18
import Proofs.Chain

/-!
# C18Chain — checkpoints along whole histories

C18 at the level of whole histories: a chain state all of whose blocks went through full validation (`CoinState.add_block`)
holds, at every checkpointed height at or below the horizon, only the block with the checkpoint's id; and a block that is the
first above the horizon can only be added on top of the block with the last checkpoint's id — so every fully validated history
that crosses the horizon passes through the last checkpoint (no alternative history "jumps over" it: above the horizon a block's
height is its parent's plus one).
-/

namespace Model
namespace C18

variable (C : Crypto) (P : Params)

/-- a chain state all of whose blocks went through full validation -/
inductive FullyValidated : CoinState → Prop where
  | empty : FullyValidated .empty
  | add (cs cs' : CoinState) (b : Block) (now : Int) :
      FullyValidated cs → addBlock C P cs b now = .ok cs' → FullyValidated cs'

/-- every stored block sits under its own id and, at a checkpointed height at or below the horizon, has the checkpoint's id -/
theorem stored_blocks_invariant (cs : CoinState) (hv : FullyValidated C P cs) :
    ∀ k v, cs.blocks.get? k = some v →
      v.id C = k ∧ ((v.height : Int) ≤ P.maxKnownHeight → ∀ h, P.knownHashes.lookup v.height = some h → v.id C = h) := by
  induction hv with
  | empty => intro k v hg; cases hg
  | add cs cs' b now _ ha ih =>
    intro k v hg
    rw [add_ok_blocks C (addBlock_accepted ha).2.2, Map.get?_set] at hg
    by_cases hk : b.id C = k
    · rw [if_pos hk] at hg
      cases hg
      exact ⟨hk, fun hle h hl => no_alternative_history C P cs cs' b now h ha hle hl⟩
    · rw [if_neg hk] at hg
      exact ih k v hg

/-- every stored block at a checkpointed height at or below the horizon has the checkpoint's id -/
theorem stored_blocks_respect_checkpoints (cs : CoinState) (hv : FullyValidated C P cs) (b : Block)
    (hb : cs.blocks.get? (b.id C) = some b) (hle : (b.height : Int) ≤ P.maxKnownHeight) (h : Bytes)
    (hk : P.knownHashes.lookup b.height = some h) : b.id C = h :=
  (stored_blocks_invariant C P cs hv _ _ hb).2 hle h hk

/-- the first block above the horizon sits on the block with the last checkpoint's id -/
theorem crossing_the_horizon_passes_the_checkpoint (cs cs' : CoinState) (hv : FullyValidated C P cs) (b : Block) (now : Int)
    (ha : addBlock C P cs b now = .ok cs') (hH : (b.height : Int) = P.maxKnownHeight + 1) (h : Bytes)
    (hk : P.knownHashes.lookup (b.height - 1) = some h) : b.prev = h := by
  obtain ⟨pb, hpb, _, hht, _⟩ := ((addBlock_accepted ha).2.1 (by omega)).parent
  obtain ⟨hid, hcp⟩ := stored_blocks_invariant C P cs hv _ _ hpb
  have he : b.height - 1 = pb.height := by omega
  rw [he] at hk
  rw [← hid]
  exact hcp (by omega) h hk

end C18
end Model
