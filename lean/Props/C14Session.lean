import Props.C14

/-!
# C14 for whole sessions: any sequence of successful spends and failed attempts

`Props/C14.lean` states what one call of `create_spend_transaction` does and that two successive spends do not overlap. Here the
quantifier of the property — *every sequence of successive spends and failed attempts*, the ledger moving on in between — is
taken literally: a session is a list of requests, each served on the wallet the earlier ones left behind, each with its own
ledger state (unspent set and per-key balances at the head of that moment).

* `session_record_exact`: the wallet's record of used outputs at the end is what it was at the start followed by exactly the
  references spent by the transactions returned, in order — failed attempts contribute nothing;
* `session_spends_disjoint`: no two transactions returned during a session spend a common output;
* `session_avoids_earlier`: nothing recorded as used before the session is spent in it;
* `session_failures_invisible`: the session goes exactly as the session with the failing requests left out.
-/

namespace Model
namespace C14

/-- one request: the ledger state it is served at, what to pay, and the signatures the signer produces -/
structure Req where
  u : Utxo
  bal : PKBalances
  amount : Nat
  fee : Nat
  recipient : Bytes
  change : Bytes
  sigs : List Bytes

def Req.serve (w : Wallet) (q : Req) : Except Err (Wallet × Tx) :=
  w.createSpend q.u q.bal q.amount q.fee q.recipient q.change q.sigs

/-- the wallet at the end of a session and the transactions returned during it -/
def session (w : Wallet) : List Req → Wallet × List Tx
  | [] => (w, [])
  | q :: rest =>
    match q.serve w with
    | .ok (w', t) => ((session w' rest).1, t :: (session w' rest).2)
    | .error _ => session w rest

def spentBy (ts : List Tx) : List OutRef := ts.flatMap fun t => t.inputs.map (·.ref)

theorem spentBy_nil : spentBy [] = [] := rfl

theorem spentBy_cons (t : Tx) (ts : List Tx) : spentBy (t :: ts) = t.inputs.map (·.ref) ++ spentBy ts :=
  List.flatMap_cons

theorem session_cons_ok (w w' : Wallet) (q : Req) (rest : List Req) (t : Tx) (h : q.serve w = .ok (w', t)) :
    session w (q :: rest) = ((session w' rest).1, t :: (session w' rest).2) := by
  rw [session, h]

theorem session_cons_error (w : Wallet) (q : Req) (rest : List Req) (e : Err) (h : q.serve w = .error e) :
    session w (q :: rest) = session w rest := by
  rw [session, h]

/-! The inductions below follow `session`'s own case principle: the empty session; a request served (`hq`), with the
statement for the rest of the session on the new wallet; a request refused, with the statement for the rest on the same wallet. -/

theorem session_record_exact (w : Wallet) (qs : List Req) :
    (session w qs).1.spent = w.spent ++ spentBy (session w qs).2 ∧
    (session w qs).1.keypairs = w.keypairs ∧ (session w qs).1.unused = w.unused ∧
    (session w qs).1.annotations = w.annotations := by
  fun_induction session w qs with
  | case1 w => simp [spentBy_nil]
  | case2 w q rest w' t hq ih =>
    obtain ⟨⟨hsp, hk, hu, ha⟩, _⟩ := spend_record hq
    obtain ⟨h1, h2, h3, h4⟩ := ih
    exact ⟨by rw [h1, hsp, List.append_assoc, spentBy_cons], h2.trans hk, h3.trans hu, h4.trans ha⟩
  | case3 w q rest e hq ih => exact ih

/-- one induction for both: by `spend_record` each transaction avoids the record it meets, which holds everything the earlier
ones spent -/
theorem session_fresh (w : Wallet) (qs : List Req) :
    (∀ r ∈ spentBy (session w qs).2, r ∉ w.spent) ∧
    (session w qs).2.Pairwise fun t₁ t₂ => ∀ i ∈ t₁.inputs, ∀ j ∈ t₂.inputs, i.ref ≠ j.ref := by
  fun_induction session w qs with
  | case1 w => simp [spentBy_nil]
  | case2 w q rest w' t hq ih =>
    obtain ⟨⟨hsp, _⟩, hnew⟩ := spend_record hq
    obtain ⟨hav, hpw⟩ := ih
    rw [hsp] at hav
    refine ⟨fun r hr => ?_, List.Pairwise.cons (fun t₂ ht₂ i hi j hj hij => ?_) hpw⟩
    · rcases List.mem_append.1 (spentBy_cons t _ ▸ hr) with hr | hr
      · obtain ⟨i, hi, rfl⟩ := List.mem_map.1 hr
        exact hnew i hi
      · exact fun hw => hav r hr (List.mem_append_left _ hw)
    · exact hav j.ref (List.mem_flatMap.2 ⟨t₂, ht₂, List.mem_map_of_mem hj⟩)
        (hij ▸ List.mem_append_right _ (List.mem_map_of_mem hi))
  | case3 w q rest e hq ih => exact ih

theorem session_avoids_earlier (w : Wallet) (qs : List Req) :
    ∀ r ∈ spentBy (session w qs).2, r ∉ w.spent :=
  (session_fresh w qs).1

/-- no two transactions returned during a session spend a common output -/
theorem session_spends_disjoint (w : Wallet) (qs : List Req) :
    (session w qs).2.Pairwise fun t₁ t₂ => ∀ i ∈ t₁.inputs, ∀ j ∈ t₂.inputs, i.ref ≠ j.ref :=
  (session_fresh w qs).2

theorem session_append (w : Wallet) (a b : List Req) :
    session w (a ++ b) = ((session (session w a).1 b).1, (session w a).2 ++ (session (session w a).1 b).2) := by
  fun_induction session w a with
  | case1 w => rfl
  | case2 w q rest w' t hq ih => simp only [List.cons_append, session, hq, ih]
  | case3 w q rest e hq ih => simp only [List.cons_append, session, hq, ih]

/-- failed attempts are invisible: the session goes exactly as it would with the failing requests left out — so a later
affordable spend succeeds, with the same transaction, whatever failed before it -/
theorem session_failures_invisible (w : Wallet) (qs : List Req) (extra : Req) (e : Err) (k : Nat)
    (hfail : extra.serve (session w (qs.take k)).1 = .error e) :
    session w (qs.take k ++ extra :: qs.drop k) = session w qs := by
  conv => rhs; rw [← List.take_append_drop k qs]
  rw [session_append, session_append, session_cons_error _ extra _ e hfail]

/-! ### non-vacuity: a failed attempt, a spend, a failed attempt (the only output is used), on a wallet holding one output of 14 -/

private def xu : Utxo := [(⟨[11], 0⟩, ⟨6, [8]⟩), (⟨[12], 0⟩, ⟨14, [5]⟩)]
private def xw : Wallet := ⟨[([5], [50])], [[5]], [], []⟩
private def xbal : PKBalances := [([8], ⟨6, [⟨[11], 0⟩]⟩), ([5], ⟨14, [⟨[12], 0⟩]⟩)]
private def xqs : List Req := [⟨xu, xbal, 100, 1, [8], [5], [[3]]⟩, ⟨xu, xbal, 9, 1, [8], [5], [[3]]⟩, ⟨xu, xbal, 2, 1, [8], [5], [[3]]⟩]

example : session xw xqs =
    ({ xw with spent := [⟨[12], 0⟩] }, [⟨[⟨⟨[12], 0⟩, .secp [3]⟩], [⟨9, [8]⟩, ⟨4, [5]⟩]⟩]) := by decide +kernel

/-- the first request fails on the fresh wallet: the hypothesis of `session_failures_invisible` with `k = 0` -/
example : (⟨xu, xbal, 100, 1, [8], [5], [[3]]⟩ : Req).serve (session xw (xqs.take 0)).1 =
    .error (.other "Insufficient balance") := by decide +kernel

end C14
end Model
