import Props.C13
/-!
# C09 — relay path: only fully valid blocks enter state; rejected ones leave no trace

`handleBlockReceived C P n c 0 b now` is `handle_block_received` for a block delivered outside
bulk download (`in_response_to = 0`) on connection `c`; the result is the node when the handler
returns or raises, and the exception that escaped (the caller then disconnects `c`).
-/

namespace Model
namespace C09

variable (C : Crypto) (P : Params)

/-- the state of a node that only ever received unsolicited blocks: the served state is the
last validated one, nothing is waiting in the write buffer, the pool invariant (C13) holds -/
structure Inv (n : Node) : Prop where
  lastValid : n.mgr.lastValid = some n.mgr.coinstate
  wbufEmpty : n.wbuf = []
  pool : C13.PoolInv C P n.mgr

/-- everything except connection `c`'s inventory bookkeeping is as before -/
def Untouched (n n' : Node) : Prop :=
  n'.mgr.coinstate = n.mgr.coinstate ∧ n'.mgr.pool = n.mgr.pool ∧ n'.mgr.lastValid = n.mgr.lastValid ∧
  n'.wbuf = n.wbuf ∧ n'.disk = n.disk ∧ n'.nonce = n.nonce ∧
  n'.peers.map (·.outbox.length) = n.peers.map (·.outbox.length) ∧
  n'.peers.map (·.active) = n.peers.map (·.active)

theorem untouched_updatePeer (n : Node) (c : Nat) (id : Bytes) :
    Untouched n (n.updatePeer c fun p => { p with pendingInventory := p.pendingInventory.erase id }) :=
  ⟨rfl, rfl, rfl, rfl, rfl, rfl, updatePeer_map n c _ _ (fun _ => rfl), updatePeer_map n c _ _ (fun _ => rfl)⟩

/-- under `Inv` an unsolicited block either only clears its id from `c`'s pending inventory (ignored, raised, or refused:
falling back to the served state and clearing an empty buffer change nothing), or it is new, `addBlock` accepts it, and the
handler is the verdict `accept changed (blockEq b hd)` carried out -/
theorem handleBlockReceived_unsolicited (n : Node) (c : Nat) (b : Block) (now : Int) (hinv : Inv C P n) :
    (handleBlockReceived C P n c 0 b now).1 =
        (n.updatePeer c fun p => { p with pendingInventory := p.pendingInventory.erase (b.id C) }) ∨
    ∃ changed hd, n.mgr.coinstate.blocks.contains (b.id C) = false ∧ addBlock C P n.mgr.coinstate b now = .ok changed ∧
      addBlockNoValidation C n.mgr.coinstate b = .ok changed ∧ changed.head = some hd ∧
      handleBlockReceived C P n c 0 b now = (BlockVerdict.accept changed (blockEq b hd)).exec C n c b := by
  have hspec := blockVerdict_spec C P n.mgr.coinstate 0 b now
  rw [handleBlockReceived_eq]
  cases hv : blockVerdict C P n.mgr.coinstate 0 b now with
  | ignore => exact .inl rfl
  | raise e => exact .inl rfl
  | refuse =>
    -- falling back to the served state and clearing an empty buffer change nothing
    left
    simp only [BlockVerdict.exec, ← hinv.wbufEmpty, fallBack_eq_self C n.mgr hinv.lastValid
      (cleanupPool_eq_self C _ _ fun t ht => (hinv.pool.1 t ht).2)]
    rfl
  | adopt changed =>
    -- adoption without validation happens for answers only (`in_response_to ≠ 0`)
    rw [hv] at hspec; exact absurd rfl hspec.2.2
  | accept changed relay =>
    rw [hv] at hspec
    obtain ⟨hk, hok, hstep, hd, hhd, hrel⟩ := hspec
    simp only [decide_true, Bool.and_true] at hrel
    exact .inr ⟨changed, hd, hk, hok, hstep, hhd, by rw [hrel]⟩

/-- the same with the two outcomes as `Untouched` / `Accepted`, the form the statements below use -/
theorem unsolicited_cases (n : Node) (c : Nat) (b : Block) (now : Int) (hinv : Inv C P n) :
    Untouched n (handleBlockReceived C P n c 0 b now).1 ∨
    (n.mgr.coinstate.blocks.contains (b.id C) = false ∧
      ∃ changed hd, Accepted C P n b now (handleBlockReceived C P n c 0 b now) changed hd) :=
  (handleBlockReceived_unsolicited C P n c b now hinv).imp
    (fun h => by rw [h]; exact untouched_updatePeer n c _)
    fun ⟨changed, hd, hk, hok, hstep, hhd, h⟩ => ⟨hk, changed, hd, h ▸ .of_exec c hinv.wbufEmpty hok hstep hhd⟩

/-- a block becomes part of the served chain state only if it passes full validation against
its parent's state (i.e. `CoinState.add_block` accepts it on the prior state) -/
theorem enter_only_if_valid (n : Node) (c : Nat) (b : Block) (now : Int) (hinv : Inv C P n)
    (hch : (handleBlockReceived C P n c 0 b now).1.mgr.coinstate ≠ n.mgr.coinstate) :
    addBlock C P n.mgr.coinstate b now = .ok (handleBlockReceived C P n c 0 b now).1.mgr.coinstate := by
  rcases unsolicited_cases C P n c b now hinv with hu | ⟨_, changed, hd, ha⟩
  · exact absurd hu.1 hch
  · rw [ha.mgr]
    exact ha.ok

/-- when it does, it is written to the block store (and the write buffer is empty again) -/
theorem accepted_is_stored (n : Node) (c : Nat) (b : Block) (now : Int) (hinv : Inv C P n)
    (hch : (handleBlockReceived C P n c 0 b now).1.mgr.coinstate ≠ n.mgr.coinstate) :
    (∃ x ∈ (handleBlockReceived C P n c 0 b now).1.disk, x.id C = b.id C) ∧
    (handleBlockReceived C P n c 0 b now).1.wbuf = [] ∧
    (handleBlockReceived C P n c 0 b now).2 = none := by
  rcases unsolicited_cases C P n c b now hinv with hu | ⟨_, changed, hd, ha⟩
  · exact absurd hu.1 hch
  · refine ⟨?_, ha.wbuf, ha.err⟩
    rw [ha.disk]
    exact flush_single_stored C n.disk b

/-- the store only grows -/
theorem disk_monotone (n : Node) (c : Nat) (r : Nat) (b : Block) (now : Int) (x : Block)
    (hx : x ∈ n.disk) : x ∈ (handleBlockReceived C P n c r b now).1.disk := by
  rw [handleBlockReceived_eq]
  cases blockVerdict C P n.mgr.coinstate r b now with
  | accept changed relay => cases relay <;> exact flush_foldl_mono C x _ _ hx
  | _ => exact hx

/-- if it is the new head it is relayed to every active peer exactly once: one `Data(block)`
appended to the queue of each peer that has exchanged greetings, nothing to the others -/
theorem relayed_once_if_new_head (n : Node) (c : Nat) (b : Block) (now : Int) (hinv : Inv C P n)
    (hch : (handleBlockReceived C P n c 0 b now).1.mgr.coinstate ≠ n.mgr.coinstate)
    (hhead : (handleBlockReceived C P n c 0 b now).1.mgr.coinstate.current = some (b.id C)) :
    (handleBlockReceived C P n c 0 b now).1.peers.map (·.outbox.length) =
      n.peers.map (fun p => if p.active then p.outbox.length + 1 else p.outbox.length) := by
  rcases unsolicited_cases C P n c b now hinv with hu | ⟨_, changed, hd, ha⟩
  · exact absurd hu.1 hch
  · rw [ha.mgr] at hhead
    have hb : changed.head = some b := add_ok_head_of_current C ha.step hhead
    have hd_eq : hd = b := Option.some.inj (ha.head.symm.trans hb)
    rw [ha.outbox, hd_eq, blockEq_self, if_pos rfl]

/-- a repeated delivery of a block that is already part of the served state has no effect -/
theorem redelivery_noop (n : Node) (c : Nat) (r : Nat) (b : Block) (now : Int)
    (hk : n.mgr.coinstate.blocks.contains (b.id C) = true) :
    Untouched n (handleBlockReceived C P n c r b now).1 ∧ (handleBlockReceived C P n c r b now).2 = none := by
  rw [handleBlockReceived_eq, blockVerdict_known C P _ r b now hk]
  exact ⟨untouched_updatePeer n c _, rfl⟩

/-- a delivered block that is rejected for any reason — unknown parent, structural defect, rule
violation, or an error while applying it — leaves served state, last validated state, pool,
write buffer, store and every peer's queue exactly as they were -/
theorem reject_no_trace (n : Node) (c : Nat) (b : Block) (now : Int) (hinv : Inv C P n)
    (hrej : ∀ cs', addBlock C P n.mgr.coinstate b now ≠ .ok cs') :
    Untouched n (handleBlockReceived C P n c 0 b now).1 := by
  rcases unsolicited_cases C P n c b now hinv with hu | ⟨_, changed, hd, ha⟩
  · exact hu
  · exact absurd ha.ok (hrej changed)

/-- the invariant is kept by every unsolicited delivery, accepted or not -/
theorem inv_preserved (n : Node) (c : Nat) (b : Block) (now : Int) (hinv : Inv C P n) :
    Inv C P (handleBlockReceived C P n c 0 b now).1 := by
  rcases unsolicited_cases C P n c b now hinv with hu | ⟨_, changed, hd, ha⟩
  · obtain ⟨h1, h2, h3, h4, _⟩ := hu
    refine ⟨by rw [h3, h1]; exact hinv.lastValid, by rw [h4]; exact hinv.wbufEmpty, ?_⟩
    have hp := hinv.pool
    unfold C13.PoolInv at hp ⊢
    rw [h1, h2]
    exact hp
  · refine ⟨by rw [ha.mgr]; rfl, ha.wbuf, ?_⟩
    rw [ha.mgr]
    exact C13.setState_preserves C P n.mgr changed true
      ⟨fun t ht => (hinv.pool.1 t ht).1, hinv.pool.2⟩

/-- a sequence of unsolicited deliveries -/
def deliverAll (n : Node) : List (Nat × Block × Int) → Node
  | [] => n
  | (c, b, now) :: rest => deliverAll (handleBlockReceived C P n c 0 b now).1 rest

theorem deliverAll_ind {Q : Node → Prop}
    (hstep : ∀ n c b now, Inv C P n → Q n → Q (handleBlockReceived C P n c 0 b now).1) :
    ∀ (ds : List (Nat × Block × Int)) (n : Node), Inv C P n → Q n → Q (deliverAll C P n ds)
  | [], _, _, h => h
  | (c, b, now) :: rest, n, hinv, h =>
    deliverAll_ind hstep rest _ (inv_preserved C P n c b now hinv) (hstep n c b now hinv h)

/-- rejected deliveries do not impair the storing of later blocks: after any sequence of
deliveries — valid blocks on any fork, duplicates, orphans, broken blocks in any mix — every block
that entered the served state during the sequence is in the store -/
theorem later_blocks_stored (n : Node) (ds : List (Nat × Block × Int)) (hinv : Inv C P n)
    (id : Bytes) (hnew : (deliverAll C P n ds).mgr.coinstate.blocks.contains id = true)
    (hold : n.mgr.coinstate.blocks.contains id = false) :
    ∃ x ∈ (deliverAll C P n ds).disk, x.id C = id := by
  refine deliverAll_ind C P (Q := fun m => m.mgr.coinstate.blocks.contains id = true → ∃ x ∈ m.disk, x.id C = id)
    (fun m c b now hm hQ hafter => ?_) ds n hinv (fun h => by rw [hold] at h; cases h) hnew
  cases hmid : m.mgr.coinstate.blocks.contains id with
  | true =>
    obtain ⟨x, hx, hxi⟩ := hQ hmid
    exact ⟨x, disk_monotone C P m c 0 b now x hx, hxi⟩
  | false =>
    rcases unsolicited_cases C P m c b now hm with hu | ⟨_, changed, hd, ha⟩
    · rw [hu.1, hmid] at hafter
      cases hafter
    · rw [ha.mgr] at hafter
      change changed.blocks.contains id = true at hafter
      rw [add_ok_contains C ha.step, hmid] at hafter
      simp only [Bool.or_false, decide_eq_true_eq] at hafter
      -- `id` is the block just accepted, which the flush has written
      obtain ⟨x, hx, hxid⟩ := flush_single_stored C m.disk b
      exact ⟨x, by rw [ha.disk]; exact hx, hxid.trans hafter⟩

/-- non-vacuity: the invariant holds of a fresh node -/
example : Inv C P ⟨⟨CoinState.empty, [], some CoinState.empty⟩, [], [], [], 0⟩ :=
  ⟨rfl, rfl, ⟨fun _ ht => (by cases ht), List.nodup_nil⟩⟩

end C09
end Model
