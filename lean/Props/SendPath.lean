import Model.SendPath

/-!
# The write path (C09 "relayed to the node's peers", C10 "reaches every node", C12 "is broadcast")

Whatever a node queues for a peer reaches the peer's socket: for every history of `send_message` calls and write events, with a
socket that accepts any part of what it is offered,

* `conservation`: the bytes accepted so far, followed by what is still in flight and what is still queued, are exactly the
  frames queued so far, in order — nothing is lost, duplicated or reordered;
* `never_wedged`: the connection is registered for write events exactly when a frame is in flight, and nothing is queued behind
  an empty flight buffer — it never holds unsent bytes without waiting for the socket;
* `progress`: a write event on which the socket accepts at least one byte strictly decreases the number of unsent bytes;
* `all_delivered`: when no bytes are left unsent, the wire carries exactly the frames queued, in order;
* `drains`: `k` write events that each accept at least one byte leave at most `unsent − k` bytes unsent.

Frames are never empty (a frame starts with the four magic bytes).
-/

namespace Model
namespace SendPath

/-- frames in flight or queued are non-empty, writing is on exactly when something is in flight, nothing waits behind an empty
flight buffer -/
structure Inv (s : SendSt) : Prop where
  backlogNonempty : ∀ f ∈ s.backlog, f ≠ []
  writingIff : s.writing = true ↔ s.buffer ≠ []
  idle : s.buffer = [] → s.backlog = []

def unsent (s : SendSt) : Nat := s.buffer.length + (s.backlog.map List.length).sum

/-- everything the connection was given, in order -/
def pending (s : SendSt) : Bytes := s.wire ++ s.buffer ++ s.backlog.flatten

theorem inv_init : Inv SendSt.init := by
  refine ⟨?_, ?_, ?_⟩ <;> simp [SendSt.init]

/-- `s1` is `s` after the `send` in `canSendAux`, the socket accepting `a` bytes at most -/
theorem send_spec (s : SendSt) (a : Nat) :
    let s1 : SendSt := { s with wire := s.wire ++ s.buffer.take (min a s.buffer.length),
                                buffer := s.buffer.drop (min a s.buffer.length) }
    pending s1 = pending s ∧ unsent s1 ≤ unsent s ∧ (1 ≤ a → s.buffer ≠ [] → unsent s1 < unsent s) := by
  refine ⟨?_, ?_, fun ha hb => ?_⟩
  · simp only [pending, List.append_assoc]
    rw [← List.append_assoc (s.buffer.take _), List.take_append_drop]
  · simp only [unsent, List.length_drop]; omega
  · have := List.length_pos_iff.2 hb
    simp only [unsent, List.length_drop]; omega

/-- putting the next queued frame in flight changes neither what is pending nor what is unsent -/
theorem next_spec (f : Bytes) (rest : List Bytes) (w : Bool) (wire : Bytes) :
    pending ⟨f, rest, w, wire⟩ = pending ⟨[], f :: rest, w, wire⟩ ∧
    unsent ⟨f, rest, w, wire⟩ = unsent ⟨[], f :: rest, w, wire⟩ := by
  simp [pending, unsent]

theorem canSendAux_spec (acc : Nat → Nat) (fuel i : Nat) (s : SendSt)
    (hlen : s.backlog.length < fuel) (hne : ∀ f ∈ s.backlog, f ≠ []) (hw : s.writing = true) :
    Inv (canSendAux acc fuel i s) ∧
    pending (canSendAux acc fuel i s) = pending s ∧
    unsent (canSendAux acc fuel i s) ≤ unsent s ∧
    (1 ≤ acc i → s.buffer ≠ [] → unsent (canSendAux acc fuel i s) < unsent s) := by
  fun_induction canSendAux acc fuel i s with
  | case1 i s => omega -- out of fuel: excluded by `hlen`
  | case2 fuel i s sent s1 hempty hbl => -- all in flight was accepted and nothing is queued: writing is switched off
    exact ⟨⟨hne, by simpa using List.isEmpty_iff.1 hempty, fun _ => hbl⟩, send_spec s (acc i)⟩
  | case3 fuel i s sent s1 hempty f rest hbl ih => -- all was accepted and `f` is queued: `f` goes in flight, again
    obtain ⟨hp, hu, hlt⟩ : pending s1 = pending s ∧ unsent s1 ≤ unsent s ∧
      (1 ≤ acc i → s.buffer ≠ [] → unsent s1 < unsent s) := send_spec s (acc i)
    have hbl' : s.backlog = f :: rest := hbl
    obtain ⟨hinv, h4, h5, _⟩ := ih (by rw [hbl'] at hlen; exact Nat.lt_of_succ_lt_succ hlen)
      (fun g hg => hne g (hbl' ▸ List.mem_cons_of_mem _ hg)) hw
    have e : s1 = ⟨[], f :: rest, s1.writing, s1.wire⟩ := by
      rw [← List.isEmpty_iff.1 hempty, ← hbl]
    obtain ⟨np, nu⟩ := next_spec f rest s1.writing s1.wire
    rw [← e] at np nu
    exact ⟨hinv, h4.trans (np.trans hp), by omega, fun a b => by have := hlt a b; omega⟩
  | case4 fuel i s sent s1 hne' => -- part of what is in flight was not accepted: the handler returns
    have hb : s1.buffer ≠ [] := fun h => hne' (by rw [h]; rfl)
    exact ⟨⟨hne, ⟨fun _ => hb, fun _ => hw⟩, fun h => absurd h hb⟩, send_spec s (acc i)⟩

/-- `run_spec` for one `queue`: the invariant needs the frame to be non-empty, the bytes pending do not -/
theorem queue_spec (s : SendSt) (f : Bytes) (h : Inv s) :
    (f ≠ [] → Inv (s.queue f)) ∧
    pending (s.queue f) = pending s ++ f := by
  unfold SendSt.queue
  by_cases hb : s.buffer = []
  · -- nothing in flight, so nothing queued either: the frame goes in flight at once
    simp only [hb, h.idle hb, List.isEmpty_nil, if_true, List.nil_append]
    exact ⟨fun hf => ⟨by simp, by simpa using hf, by simp [hf]⟩, by simp [pending, hb, h.idle hb]⟩
  · simp only [List.isEmpty_iff, hb, if_false]
    refine ⟨fun hf => ⟨fun g hg => ?_, h.writingIff, fun e => absurd e hb⟩, by simp [pending]⟩
    rcases List.mem_append.1 hg with hg | hg
    · exact h.backlogNonempty g hg
    · rwa [List.mem_singleton.1 hg]

/-- `run_spec` for one write event while writing (`canSendAux_spec` at the fuel `canSend` hands it), and the strict decrease
that `progress` states -/
theorem canSend_spec (s : SendSt) (acc : Nat → Nat) (h : Inv s) (hw : s.writing = true) :
    Inv (s.canSend acc) ∧
    pending (s.canSend acc) = pending s ∧
    (1 ≤ acc 0 → unsent (s.canSend acc) < unsent s) :=
  let ⟨hinv, hp, _, hlt⟩ := canSendAux_spec acc (s.backlog.length + 1) 0 s (Nat.lt_succ_self _) h.backlogNonempty hw
  ⟨hinv, hp, fun ha => hlt ha (h.writingIff.mp hw)⟩

theorem step_writing {s : SendSt} (acc : Nat → Nat) (hw : s.writing = true) : s.step (.writable acc) = s.canSend acc := by
  rw [SendSt.step, if_pos hw]

theorem step_not_writing {s : SendSt} (acc : Nat → Nat) (hw : s.writing = false) : s.step (.writable acc) = s := by
  rw [SendSt.step, hw]; rfl

/-- `run_spec` for one event -/
theorem step_spec (s : SendSt) (ev : SendEv) (h : Inv s) (hf : ∀ f, ev = .queue f → f ≠ []) :
    Inv (s.step ev) ∧
    pending (s.step ev) = pending s ++ (queuedBy [ev]).flatten := by
  -- the ends of `step`: 1 a frame is queued; a write event 2 while writing, 3 while not
  fun_cases SendSt.step s ev with
  | case1 f =>
    have := queue_spec s f h
    simp only [queuedBy, List.flatten_cons, List.flatten_nil, List.append_nil]
    exact ⟨this.1 (hf f rfl), this.2⟩
  | case2 acc hw =>
    obtain ⟨hinv, hp, _⟩ := canSend_spec s acc h hw
    exact ⟨hinv, hp.trans (List.append_nil _).symm⟩
  | case3 => exact ⟨h, (List.append_nil _).symm⟩

theorem queuedBy_cons (ev : SendEv) (evs : List SendEv) : queuedBy (ev :: evs) = queuedBy [ev] ++ queuedBy evs := by
  cases ev <;> simp [queuedBy]

theorem run_spec (evs : List SendEv) (s : SendSt) (h : Inv s) (hf : ∀ f ∈ queuedBy evs, f ≠ []) :
    Inv (s.run evs) ∧
    pending (s.run evs) = pending s ++ (queuedBy evs).flatten := by
  induction evs generalizing s with
  | nil => exact ⟨h, by simp [SendSt.run, queuedBy]⟩
  | cons ev evs ih =>
    rw [queuedBy_cons] at hf
    obtain ⟨i1, c1⟩ := step_spec s ev h fun f he => hf f (List.mem_append_left _ (by simp [he, queuedBy]))
    obtain ⟨i2, c2⟩ := ih (s.step ev) i1 fun f hm => hf f (List.mem_append_right _ hm)
    refine ⟨i2, ?_⟩
    rw [show s.run (ev :: evs) = (s.step ev).run evs from rfl, c2, c1, queuedBy_cons ev evs, List.flatten_append,
      List.append_assoc]

/-- after every history: never wedged -/
theorem never_wedged (evs : List SendEv) (hf : ∀ f ∈ queuedBy evs, f ≠ []) : Inv (SendSt.init.run evs) :=
  (run_spec evs SendSt.init inv_init hf).1

/-- after every history: nothing lost, duplicated or reordered -/
theorem conservation (evs : List SendEv) (hf : ∀ f ∈ queuedBy evs, f ≠ []) :
    (SendSt.init.run evs).wire ++ (SendSt.init.run evs).buffer ++ (SendSt.init.run evs).backlog.flatten
      = (queuedBy evs).flatten :=
  ((run_spec evs SendSt.init inv_init hf).2).trans (List.nil_append _)

/-- a write event on which the first `send` accepts at least one byte makes progress -/
theorem progress (s : SendSt) (acc : Nat → Nat) (h : Inv s) (hw : s.writing = true) (ha : 1 ≤ acc 0) :
    unsent (s.step (.writable acc)) < unsent s := by
  rw [step_writing acc hw]
  exact (canSend_spec s acc h hw).2.2 ha

/-- when nothing is left unsent, the peer has been sent exactly the frames queued, in order -/
theorem all_delivered (evs : List SendEv) (hf : ∀ f ∈ queuedBy evs, f ≠ [])
    (hu : unsent (SendSt.init.run evs) = 0) : (SendSt.init.run evs).wire = (queuedBy evs).flatten := by
  have hc := conservation evs hf
  have hi := never_wedged evs hf
  have hb : (SendSt.init.run evs).buffer = [] := by
    simp only [unsent] at hu
    exact List.length_eq_zero_iff.mp (by omega)
  rw [hb, hi.idle hb] at hc
  simpa using hc

theorem unsent_zero_of_not_writing (s : SendSt) (h : Inv s) (hw : s.writing = false) : unsent s = 0 := by
  have hb : s.buffer = [] := Classical.byContradiction fun hb => Bool.false_ne_true (hw ▸ h.writingIff.mpr hb)
  simp [unsent, hb, h.idle hb]

/-- **everything queued is delivered**: after `k` write events on each of which the socket accepts at least one byte, at most
`unsent s - k` bytes are unsent — after `unsent s` such events, none -/
theorem drains (accs : List (Nat → Nat)) (ha : ∀ acc ∈ accs, 1 ≤ acc 0) (s : SendSt) (h : Inv s) :
    unsent (s.run (accs.map SendEv.writable)) ≤ unsent s - accs.length := by
  induction accs generalizing s with
  | nil => exact Nat.le_refl _
  | cons acc rest ih =>
    have hrest := ih (fun a ha' => ha a (List.mem_cons_of_mem _ ha')) (s.step (.writable acc))
      (step_spec s (.writable acc) h (fun f hf => nomatch hf)).1
    show unsent ((s.step (.writable acc)).run (rest.map SendEv.writable)) ≤ unsent s - (rest.length + 1)
    cases hw : s.writing
    · have h0 := unsent_zero_of_not_writing s h hw
      rw [step_not_writing acc hw] at hrest ⊢
      omega
    · have hp := progress s acc h hw (ha acc (List.mem_cons_self ..))
      omega

/-! ### non-vacuity: two frames queued while the socket accepts two bytes per call, then drained -/

example :
    let evs := [SendEv.queue [1, 2, 3], .writable (fun _ => 2), .queue [4, 5], .writable (fun _ => 2), .writable (fun _ => 2)]
    (SendSt.init.run evs).wire = [1, 2, 3, 4, 5] ∧ (SendSt.init.run evs).writing = false ∧ unsent (SendSt.init.run evs) = 0 := by
  decide

/-- the intermediate state: one byte of the first frame still in flight, the second frame queued behind it, writing on -/
example :
    let evs := [SendEv.queue [1, 2, 3], .writable (fun _ => 2), .queue [4, 5]]
    (SendSt.init.run evs).buffer = [3] ∧ (SendSt.init.run evs).backlog = [[4, 5]] ∧ (SendSt.init.run evs).writing = true := by
  decide

end SendPath
end Model
