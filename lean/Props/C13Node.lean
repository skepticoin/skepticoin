import Props.C13
import Proofs.Contain
import Proofs.Mining
/-!
# C13 along whole node histories

`Props/C13.lean` shows that the pool invariant — every pending transaction valid by itself and at the served head, no two of
them spending one output — holds of every chain manager reached by submissions and head changes (`Reachable`). This file shows
that a running node never leaves that set: every event on any connection (a transaction admitted or refused, a block adopted
with or without validation, a refused block that makes the node fall back to its last validated state, garbage) and a block
found by the node's own miner change the manager only by submissions and `set_coinstate` calls. Hence the invariant holds at every
point of every history — in particular right after a fall-back, when the served head moves *backwards*.
-/

namespace Model
namespace C13

variable (C : Crypto) (P : Params)

theorem reachable_handleBlockReceived (n : Node) (c r : Nat) (b : Block) (now : Int) (h : Reachable C P n.mgr) :
    Reachable C P (handleBlockReceived C P n c r b now).1.mgr := by
  rw [handleBlockReceived_eq]
  cases blockVerdict C P n.mgr.coinstate r b now with
  | ignore | raise e => exact h
  | refuse =>
    show Reachable C P (fallBack C n.mgr)
    -- back to the last validated state `lv`, or nowhere
    fun_cases fallBack C n.mgr with
    | case1 lv => exact .setState _ lv true h
    | case2 => exact h
  | accept changed relay => cases relay <;> exact .setState _ changed true h
  | adopt changed => exact .setState _ changed false h

/-- one event of any kind on any connection keeps the manager reachable: a message changes it through the block handler or by
one submission -/
theorem reachable_handleEvent (n : Node) (c : Nat) (ev : Incoming) (now : Int) (h : Reachable C P n.mgr) :
    Reachable C P (handleEvent C P n c ev now).mgr :=
  handleEvent_inv C P (Q := fun n' => Reachable C P n'.mgr) n c ev now (hloc := fun hs h' => hs.1 ▸ h')
    (hblock := fun r b => reachable_handleBlockReceived C P n c r b now h)
    (htx := fun t m' hm' => .submit n.mgr m' t true h hm') h

/-- so does a block found by the node's own miner -/
theorem reachable_minerFound (n : Node) (cs : CoinState) (s : Summary) (height : Nat) (txs : List CTx) (summaryHash : Bytes)
    (now : Int) (h : Reachable C P n.mgr) :
    Reachable C P (minerFound C P n cs s height txs summaryHash now).1.1.mgr := by
  rcases minerFound_cases C P n cs s height txs summaryHash now with ⟨_, _, h'⟩ | h' | ⟨b, cs', -, h'⟩ <;> rw [h']
  · exact h
  · exact h
  · exact .setState _ cs' true h

/-- every history of events -/
theorem reachable_run (n : Node) (tr : List C20.Ev) (h : Reachable C P n.mgr) : Reachable C P (C20.run C P n tr).mgr :=
  C20.run_ind C P (Q := fun n => Reachable C P n.mgr) (reachable_handleEvent C P) n tr h

/-- **the pool is valid at every point of every history**: after any sequence of events, every pending transaction is valid by
itself and at the served head, and no two pending transactions spend the same output -/
theorem pool_valid_along_histories (n : Node) (tr : List C20.Ev) (h : Reachable C P n.mgr) :
    PoolInv C P (C20.run C P n tr).mgr :=
  pool_inv_reachable C P _ (reachable_run C P n tr h)

/-- in particular after a fall-back: a refused unsolicited block on a node that holds unvalidated blocks moves the served head
backwards to the last validated state, and the pool is valid there -/
theorem pool_valid_after_fall_back (n : Node) (c i : Nat) (b : Block) (now : Int) (h : Reachable C P n.mgr) :
    PoolInv C P (handleEvent C P n c (.msg i 0 (.dataBlock b)) now).mgr :=
  pool_inv_reachable C P _ (reachable_handleEvent C P n c _ now h)

end C13
end Model
