import Proofs.Value
import Props.C16

/-!
# C02 — no inflation: value is conserved and issuance follows the subsidy schedule

Per block: `accept_reward_bound` and `accept_transaction_values` read the checks off `addBlock_accepted`; `conservation` adds the
accounting of `Proofs/Value.lean` (`N u R`, the value `u` holds outside the references `R`: a block leaves what its references
did not touch plus all its outputs).

Along a chain: `ValidChainFrom` (from any stored block within the schedule) carries `supply_bound_from` by induction, and
`ValidChain` (from genesis) is the special case. Every step of either lies above the horizon, so once `maxKnownHeight ≥ 1` a
`ValidChain` is a lone genesis block (`validChain_only_genesis_of_positive_horizon`); hence the production statement
`supply_bound_production` is about `ValidChainFrom`.
-/

namespace Model
namespace C02

variable (C : Crypto) (P : Params)

/-- a block is accepted only if its reward transaction's outputs sum to at most
subsidy(height) plus the fees (inputs minus outputs, taken in the *parent's* state) of the other
transactions in it -/
theorem accept_reward_bound (cs cs' : CoinState) (b : Block) (now : Int)
    (h : addBlock C P cs b now = .ok cs') (hz : P.maxKnownHeight < b.height) :
    ∃ u cb rest fees, cs.utxoAt.get? b.prev = some u ∧ b.txs = cb :: rest ∧
      blockFees u rest = .ok fees ∧
      (outputsValue cb.tx.outputs : Int) ≤ (subsidy P b.height : Int) + fees := by
  obtain ⟨u, cb, rest, fees, hu, htx, hf, hle, _⟩ := ((addBlock_accepted h).2.1 hz).ledger
  exact ⟨u, cb, rest, fees, hu, htx, hf, by omega⟩

/-- every other transaction has each output in (0, maximum], an output total in (0, maximum]
and at most the value of its inputs -/
theorem accept_transaction_values (cs cs' : CoinState) (b : Block) (now : Int)
    (h : addBlock C P cs b now = .ok cs') (hz : P.maxKnownHeight < b.height) :
    ∃ u cb rest, cs.utxoAt.get? b.prev = some u ∧ b.txs = cb :: rest ∧
      ∀ t ∈ rest,
        (∀ o ∈ t.tx.outputs, 0 < o.value ∧ o.value ≤ P.maxSashimi) ∧
        (0 < outputsValue t.tx.outputs ∧ outputsValue t.tx.outputs ≤ P.maxSashimi) ∧
        ∃ total, inputsValue u t.tx.inputs = .ok total ∧ outputsValue t.tx.outputs ≤ total := by
  obtain ⟨B, S, _⟩ := addBlock_accepted h
  obtain ⟨u, cb, rest, fees, hu, htx, _, _, hall⟩ := (S hz).ledger
  obtain ⟨cb', rest', htx', _, hall', _, _⟩ := B.nonempty
  rw [htx] at htx'
  cases htx'
  refine ⟨u, cb, rest, hu, htx, ?_⟩
  intro t ht
  have T := (validateTxByItself_ok P t).mp (hall' t ht)
  obtain ⟨total, _, hin, hle⟩ := validateTxInState_of_ok (hall t ht)
  exact ⟨T.outputRange, T.totalRange, total, hin, hle⟩

/-- conservation: the total value of unspent outputs after an accepted block never exceeds the
total after its parent plus that height's subsidy -/
theorem conservation (cs cs' : CoinState) (b : Block) (now : Int)
    (h : addBlock C P cs b now = .ok cs') (hz : P.maxKnownHeight < b.height) :
    ∃ u u', cs.utxoAt.get? b.prev = some u ∧ cs'.utxoAt.get? (b.id C) = some u' ∧
      totalValue u' ≤ totalValue u + subsidy P b.height := by
  obtain ⟨B, S, h3⟩ := addBlock_accepted h
  obtain ⟨u, cb, rest, fees, hu, htx, hf, hle, _⟩ := (S hz).ledger
  obtain ⟨cb', rest', htx', _, _, _, hnd⟩ := B.nonempty
  rw [htx] at htx'
  cases htx'
  obtain ⟨u₀, u', _, _, hu₀, happ, -, -, rfl⟩ := (add_ok_iff C).1 h3
  refine ⟨u, u', hu, Map.get?_set_self .., ?_⟩
  -- the accounting: what the block leaves is what its references did not touch, plus all outputs
  have hacc := totalValue_utoApplyBlock C u₀ u' b cb rest htx happ
  have hcover := N_add_refsValue_le u (allRefs rest) hnd
  have hfees := blockFees_eq u rest fees hf
  -- the starting map of `add_block_no_validation` holds no more than the parent's map outside
  -- the block's references (it is the parent's map, or empty when the parent id is all zeros)
  have hstart : N u₀ (allRefs rest) ≤ N u (allRefs rest) := by
    by_cases hz' : b.prev = zeros 32
    · rw [parentUtxo_genesis hz'] at hu₀
      cases hu₀
      exact Nat.zero_le _
    · rw [parentUtxo_ok hz', hu] at hu₀
      cases hu₀
      exact Nat.le_refl _
  omega

/-- a chain all of whose non-genesis blocks were accepted by full validation above the horizon,
starting from a genesis block that is a lone reward of at most subsidy(0): the unspent total at
the tip never exceeds the cumulative subsidy schedule -/
inductive ValidChain : CoinState → Block → Prop where
  | genesis (g : Block) (cs : CoinState) (u : Utxo) :
      addBlockNoValidation C .empty g = .ok cs → g.prev = zeros 32 → g.height = 0 →
      cs.utxoAt.get? (g.id C) = some u → totalValue u ≤ subsidy P 0 → ValidChain cs g
  | step (cs cs' : CoinState) (p b : Block) (now : Int) :
      ValidChain cs p → b.prev = p.id C → addBlock C P cs b now = .ok cs' →
      P.maxKnownHeight < b.height → b.id C ≠ p.id C → ValidChain cs' b

/-- cumulative subsidy for heights `0 … n-1` under parameters `P` -/
def schedule : Nat → Nat
  | 0 => 0
  | n + 1 => schedule n + subsidy P n

/-- the same from any starting point: a stored block `p` whose unspent total is within the schedule (for instance the last
checkpointed block, whose chain the node accepted by id), extended by blocks accepted by full validation above the horizon -/
inductive ValidChainFrom : CoinState → Block → Prop where
  | base (cs : CoinState) (p : Block) (u : Utxo) :
      cs.blocks.get? (p.id C) = some p → cs.utxoAt.get? (p.id C) = some u →
      totalValue u ≤ schedule P (p.height + 1) → ValidChainFrom cs p
  | step (cs cs' : CoinState) (p b : Block) (now : Int) :
      ValidChainFrom cs p → b.prev = p.id C → addBlock C P cs b now = .ok cs' →
      P.maxKnownHeight < b.height → b.id C ≠ p.id C → ValidChainFrom cs' b

theorem ValidChainFrom.stored {cs : CoinState} {tip : Block} (hv : ValidChainFrom C P cs tip) :
    cs.blocks.get? (tip.id C) = some tip := by
  induction hv with
  | base cs p u hb _ _ => exact hb
  | step cs cs' p b now _ _ hadd _ _ _ => rw [add_ok_blocks C (addBlock_accepted hadd).2.2, Map.get?_set_self]

theorem supply_bound_from (cs : CoinState) (tip : Block) (hv : ValidChainFrom C P cs tip) :
    ∃ u, cs.utxoAt.get? (tip.id C) = some u ∧ totalValue u ≤ schedule P (tip.height + 1) := by
  induction hv with
  | base cs p u hb hu hle => exact ⟨u, hu, hle⟩
  | step cs cs' p b now hv' hprev hadd hz _ ih =>
    -- (the premise `b.id C ≠ p.id C` of `step` is not used: no proof about the two chain predicates does more than hand it on)
    obtain ⟨up, hup, hsup⟩ := ih
    -- the parent the validation looked up is `p`, so the height grows by one
    obtain ⟨pb, hpb, _, hheight, _⟩ := ((addBlock_accepted hadd).2.1 hz).parent
    rw [hprev, hv'.stored] at hpb
    cases hpb
    obtain ⟨u, u', hu, hu', hle⟩ := conservation C P cs cs' b now hadd hz
    rw [hprev, hup] at hu
    cases hu
    refine ⟨u', hu', ?_⟩
    rw [hheight] at hle ⊢
    simp only [schedule] at hsup ⊢
    omega

theorem ValidChain.toFrom {cs : CoinState} {tip : Block} (hv : ValidChain C P cs tip) :
    ValidChainFrom C P cs tip := by
  induction hv with
  | genesis g cs u hadd _ hh hu hle =>
    refine .base cs g u (by rw [add_ok_blocks C hadd, Map.get?_set_self]) hu ?_
    rw [hh]
    simp only [schedule]
    omega
  | step cs cs' p b now _ hprev hadd hz hne ih => exact .step cs cs' p b now ih hprev hadd hz hne

theorem supply_bound (cs : CoinState) (tip : Block) (hv : ValidChain C P cs tip) :
    ∃ u, cs.utxoAt.get? (tip.id C) = some u ∧ totalValue u ≤ schedule P (tip.height + 1) :=
  supply_bound_from C P cs tip (hv.toFrom C P)

theorem schedule_production (n : Nat) : schedule Gen.params n = C16.supply n := by
  induction n with
  | zero => rfl
  | succ n ih => simp only [schedule, C16.supply, ih]

/-- with the production constants regenerated from /repo: if the unspent total at some stored block (the last checkpointed one,
say) is within the documented schedule, then after any sequence of blocks accepted by full validation above the checkpoint horizon
it is never more than the documented maximum of 20,999,999.8635 coin.

(Quantifying over `ValidChain` instead would be vacuous: each of its steps needs a height above the horizon while the chain starts
at height 0, so with the production horizon of 163,000 no such chain has a second block — `production_validChain_only_genesis`.
Below the horizon the node accepts the checkpointed chain by id without validating it, so what can be proved of the code is
exactly this relative statement; that the checkpointed chain itself respects the schedule is a fact about the recorded history
of the real network, part of the trusted base of C18.) -/
theorem supply_bound_production (cs : CoinState) (tip : Block) (hv : ValidChainFrom C Gen.params cs tip) :
    ∃ u, cs.utxoAt.get? (tip.id C) = some u ∧ totalValue u ≤ 2099999986350000 := by
  obtain ⟨u, hu, hle⟩ := supply_bound_from C Gen.params cs tip hv
  rw [schedule_production] at hle
  exact ⟨u, hu, Nat.le_trans hle (C16.supply_le_max _)⟩

/-- why `ValidChain` is the wrong quantifier for the production constants: every step needs a height above the horizon, full
validation forces heights to grow by one from 0, so with a horizon ≥ 1 a `ValidChain` is a lone genesis block
(DESIGN §9.5b) -/
theorem validChain_only_genesis_of_positive_horizon (cs : CoinState) (tip : Block)
    (hpos : 1 ≤ P.maxKnownHeight) (hv : ValidChain C P cs tip) :
    tip.height = 0 ∧ tip.prev = zeros 32 ∧ addBlockNoValidation C .empty tip = .ok cs := by
  induction hv with
  | genesis g cs u hadd hp hh hu hle => exact ⟨hh, hp, hadd⟩
  | step cs cs' p b now hv' hprev hadd hz _ ih =>
    -- the parent is the genesis block, so this block sits at height 1, which is not above the horizon
    exfalso
    obtain ⟨pb, hpb, _, hheight, _⟩ := ((addBlock_accepted hadd).2.1 hz).parent
    rw [hprev, (hv'.toFrom C P).stored] at hpb
    cases hpb
    have := ih.1
    omega

theorem production_validChain_only_genesis (cs : CoinState) (tip : Block)
    (hv : ValidChain C Gen.params cs tip) : tip.height = 0 ∧ tip.prev = zeros 32 :=
  let h := validChain_only_genesis_of_positive_horizon C Gen.params cs tip (by decide) hv
  ⟨h.1, h.2.1⟩

/-! ## non-vacuity / spot values -/

/-- the schedule under the production constants: 10 coin per block at the start -/
example : schedule Gen.params 0 = 0 ∧ schedule Gen.params 3 = 3000000000 := by
  refine ⟨rfl, ?_⟩
  simp only [schedule]
  rw [C16.subsidy_first_era 0 (by omega), C16.subsidy_first_era 1 (by omega),
    C16.subsidy_first_era 2 (by omega)]

/-- the accounting vocabulary on a concrete map that even holds one key twice: the total counts
every entry, `N` leaves out every entry under a listed key, the look-up sees only the first one,
and erasing a key removes all its entries -/
example :
    let r₁ : OutRef := ⟨[1], 0⟩
    let r₂ : OutRef := ⟨[2], 0⟩
    let u : Utxo := [(r₁, ⟨5, []⟩), (r₂, ⟨7, []⟩), (r₁, ⟨11, []⟩)]
    totalValue u = 23 ∧ N u [r₁] = 7 ∧ N u [] = 23 ∧ refsValue u [r₁, r₂] = 12 ∧
      N u [r₁, r₂] + refsValue u [r₁, r₂] ≤ totalValue u ∧
      totalValue (u.erase r₁) = 7 ∧ totalValue (u.set r₂ ⟨1, []⟩) = 17 := by
  decide

end C02
end Model
