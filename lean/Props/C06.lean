import Proofs.Validation
import Props.C07
import Proofs.Merkle

/-!
# C06 — tamper evidence: every bit of a block is committed to

Cryptographic facts are explicit disjuncts (`Collision …`); nothing is assumed of the hash
functions. `…_partial`: see the note on `flip_outside_evidence_rejected_partial`. The instances that
meet the hypotheses are in `Props/NonVacuity1.lean`.
-/

namespace Model
namespace C06
open Codec

variable (C : Crypto) (P : Params)

/-- a truncated encoding of a block cannot be decoded -/
theorem truncation_undecodable (b : Block) (hw : b.content.WF) (n : Nat) (hn : n < (encBlock b).length) :
    decBlock C.sha256d ((encBlock b).take n) = none := by
  rw [C07.decBlock_eq, encBlock,
    prefix_undecodable C07.block_roundtrip C07.block_canonical b.content hw n hn]
  rfl

/-- the same for a transaction -/
theorem tx_truncation_undecodable (t : Tx) (hw : t.WF) (n : Nat) (hn : n < (encTx t).length) :
    Tx.codec.dec ((encTx t).take n) = none :=
  prefix_undecodable C07.transaction_roundtrip C07.transaction_canonical t hw n hn

theorem accepted_evidence {cs cs' : CoinState} {b : Block} {now : Int}
    (hz : P.maxKnownHeight < b.height) (ha : addBlock C P cs b now = .ok cs') :
    constructEvidence C P cs b.header.summary b.height b.txs = .ok b.header.evidence :=
  ((addBlock_accepted ha).2.1 hz).evidence

/-- an alteration confined to the evidence field (same summary, same transactions, different
evidence) is rejected: the evidence must equal the recomputed evidence — no assumption needed -/
theorem evidence_flip_rejected (cs cs' cs'' : CoinState) (b b' : Block) (now now' : Int)
    (hz : P.maxKnownHeight < b.height)
    (hs : b'.header.summary = b.header.summary) (ht : b'.txs = b.txs)
    (ha : addBlock C P cs b now = .ok cs') (ha' : addBlock C P cs b' now' = .ok cs'') :
    b'.header.evidence = b.header.evidence := by
  have hh : b'.height = b.height := congrArg Summary.height hs
  have e' := accepted_evidence C P (hh ▸ hz) ha'
  rw [hs, ht, hh, accepted_evidence C P hz ha] at e'
  exact (Except.ok.inj e').symm

/-- a byte string that is a prefix of two equal concatenations with equal first parts -/
theorem append_cancel_left {a b c d : Bytes} (h : a ++ b = c ++ d) (hl : a = c) : b = d := by
  subst hl; exact List.append_cancel_left h

/-- the evidence commits to the whole block: two blocks accepted by full validation against the
same chain state with the same evidence have the same encoding — or a collision of BLAKE2b or
of scrypt is exhibited -/
theorem commit (cs cs' cs'' : CoinState) (b b' : Block) (now now' : Int)
    (hz : P.maxKnownHeight < b.height) (hz' : P.maxKnownHeight < b'.height)
    (hw : b.content.WF) (hw' : b'.content.WF)
    (ha : addBlock C P cs b now = .ok cs') (ha' : addBlock C P cs b' now' = .ok cs'')
    (he : b.header.evidence = b'.header.evidence) :
    encBlock b = encBlock b' ∨ Collision C.blake2 ∨ Collision (Function.uncurry C.scrypt) := by
  obtain ⟨s, k⟩ := constructEvidence_ok C P (accepted_evidence C P hz ha)
  obtain ⟨s', k'⟩ := constructEvidence_ok C P (accepted_evidence C P hz' ha')
  rw [he] at s k
  -- equal scrypt outputs: equal summaries, or a collision
  rcases Collision.of_eq (h := Function.uncurry C.scrypt)
      (x := (encSummary b.header.summary, natToBytes 8 b.height))
      (y := (encSummary b'.header.summary, natToBytes 8 b'.height)) (s.symm.trans s') with hsc | hc
  · -- equal BLAKE2b outputs: equal transaction lists, or a collision
    rcases Collision.of_eq (k.symm.trans k') with hin | hc
    · left
      have hsum : b.header.summary = b'.header.summary :=
        enc_injective C07.summary_roundtrip _ _ hw.1.1 hw'.1.1 (Prod.ext_iff.mp hsc).1
      have hhdr : b.header = b'.header := by
        show (⟨b.header.summary, b.header.evidence⟩ : Header) = ⟨b'.header.summary, b'.header.evidence⟩
        rw [hsum, he]
      -- both hashed strings begin with the summary hash and the chain sample, which are equal by `s`, `s'` and `he`
      have htxs : encTxList b.txs = encTxList b'.txs :=
        append_cancel_left hin (congrArg (· ++ _) (s.symm.trans s'))
      rw [C07.encBlock_eq, C07.encBlock_eq, hhdr, htxs]
    · exact .inr (.inl hc)
  · exact .inr (.inr hc)

/-- the same id never stands for different content among acceptable blocks: two blocks obtained
from bytes (their ids are the hashes of their headers, C07) and accepted against the same
state, with the same id, have the same encoding — or a collision is exhibited -/
theorem same_id_same_content (cs cs' cs'' : CoinState) (b b' : Block) (now now' : Int)
    (hz : P.maxKnownHeight < b.height) (hz' : P.maxKnownHeight < b'.height)
    (hw : b.content.WF) (hw' : b'.content.WF)
    (hid : b.id C = C.sha256d (encHeader b.header)) (hid' : b'.id C = C.sha256d (encHeader b'.header))
    (ha : addBlock C P cs b now = .ok cs') (ha' : addBlock C P cs b' now' = .ok cs'')
    (he : b.id C = b'.id C) :
    encBlock b = encBlock b' ∨ Collision C.sha256d ∨ Collision C.blake2 ∨
      Collision (Function.uncurry C.scrypt) := by
  rw [hid, hid'] at he
  rcases Collision.of_eq he with hh | hc
  · have hhdr : b.header = b'.header := enc_injective C07.header_roundtrip _ _ hw.1 hw'.1 hh
    exact (commit C P cs cs' cs'' b b' now now' hz hz' hw hw' ha ha' (by rw [hhdr])).imp_right .inr
  · exact .inr (.inl hc)

/-- an alteration that still decodes and leaves the decoded evidence field as it was yields a
rejected block, or a collision is exhibited.

`_partial`: this covers every bit outside the evidence field *except* flips of a continuation
bit of the VLQ height (1–4 bits per block), which re-align all later fields so that the decoded
evidence is no longer the original's; collision-resistance alone does not exclude that case (a
random-oracle argument would). Those bits are covered by execution only (the harness flips every
bit of every generated block). -/
theorem flip_outside_evidence_rejected_partial (cs cs' : CoinState) (b b' : Block) (now now' : Int)
    (hz : P.maxKnownHeight < b.height) (hz' : P.maxKnownHeight < b'.height)
    (hw : b.content.WF) (hw' : b'.content.WF)
    (ha : addBlock C P cs b now = .ok cs')
    (hev : b'.header.evidence = b.header.evidence) (hne : encBlock b' ≠ encBlock b) :
    (∀ cs'', addBlock C P cs b' now' ≠ .ok cs'') ∨ Collision C.blake2 ∨
      Collision (Function.uncurry C.scrypt) := by
  by_cases hacc : ∃ cs'', addBlock C P cs b' now' = .ok cs''
  · obtain ⟨cs'', ha'⟩ := hacc
    exact (commit C P cs cs' cs'' b b' now now' hz hz' hw hw' ha ha' hev.symm).imp_left
      fun h => absurd h.symm hne
  · exact .inl fun cs'' h => hacc ⟨cs'', h⟩

end C06
end Model
