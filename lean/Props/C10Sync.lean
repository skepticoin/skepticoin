import Props.C10Walk
import Proofs.CatchUp
import Proofs.NodeLemmas

/-!
# C10 (continued) — catching up, at the level of the ledger and of the block handler

`C10Walk.every_missing_block_offered` says that the follow-up loop started by a node that is behind lists every block of the
server's active chain that the node does not store. This file adds what happens when those blocks then arrive, lowest first (the
order in which they are listed and requested):

* `catch_up`: applying the missing blocks of the server's active chain, in height order, to the requester's chain state succeeds
  and yields a state that stores the whole active chain of the server and whose head is at least as high as the server's;
* `solicited_delivery_is_add`: for a block that arrives as an answer (`in_response_to ≠ 0`), is new, has a stored parent, passes
  the by-itself validation and is not at a height where bulk download validates (`height % IBD_VALIDATION_SKIP ≠ 0`), the handler
  `handleBlockReceived` installs exactly `addBlockNoValidation` of the served state (not validated), buffers the block, and lets
  nothing escape.

Together: one requester that is behind, one server, the blocks of the walk delivered in order — the requester ends at least as
high as the server. (Interleavings of several peers remain executed, not proved.)
-/

namespace C10Sync
open Model

variable (C : Crypto) (P : Params)

/-- the server's active chain from genesis to its head, lowest first -/
def activeChain (index : Map Nat Block) (hd : Block) : List Block :=
  (List.range (hd.height + 1)).filterMap index.get?

/-- the blocks of the server's active chain that the requester does not store, lowest first -/
def missing (req : CoinState) (index : Map Nat Block) (hd : Block) : List Block :=
  (activeChain index hd).filter fun b => !(req.blocks.contains (b.id C))

theorem catch_up (rs ss : List Block) (req srv : CoinState)
    (hwfr : WFArrivals C rs) (hfr : foldBlocks C .empty rs = .ok req)
    (hwfs : WFArrivals C ss) (hfs : foldBlocks C .empty ss = .ok srv)
    (hgen : rs.head? = ss.head?)
    -- no id collision between the two histories: equal ids mean equal blocks
    (hsame : ∀ a ∈ rs, ∀ b ∈ ss, a.id C = b.id C → a = b)
    (index : Map Nat Block) (hd : Block)
    (hidx : srv.current.bind srv.byHeightAt.get? = some index) (hhd : srv.head = some hd) :
    ∃ req', foldBlocks C req (missing C req index hd) = .ok req' ∧
      (∀ h blk, h ≤ hd.height → index.get? h = some blk → (req'.blocks.get? (blk.id C)).isSome = true) ∧
      ∃ hd', req'.head = some hd' ∧ hd.height ≤ hd'.height := by
  have Bs := C10Walk.built C hwfs hfs hidx hhd
  have I₀ : C10Converge.Inv C ss index req rs 0 := ⟨hwfr, hfr, hsame, nofun⟩
  -- the whole catch-up is one round that began in `req`; the block at height 0 is the first block of both histories
  obtain ⟨req', A, I⟩ := I₀.run Bs hwfs hfs (fun x hx => List.mem_of_head? (by rw [hgen, ← Bs.gen]; exact hx))
    (Nat.zero_le _) (Nat.le_refl (hd.height + 1))
  have hm : missing C req index hd = C10Converge.wanted C req index 0 (hd.height + 1) := by
    rw [missing, activeChain, List.range_eq_range']
    rfl
  refine ⟨req', hm ▸ A.fold, fun h blk hh hg => ?_, I.head_ge Bs⟩
  rw [(hist C I.wf I.fold).stored (I.wf.facts C) (I.below h blk (by omega) hg)]
  rfl

theorem solicited_delivery_is_add (n : Node) (c : Nat) (r : Nat) (b : Block) (now : Int) (cs' : CoinState)
    (hr : r ≠ 0)
    (hnew : n.mgr.coinstate.blocks.contains (b.id C) = false)
    (hparent : n.mgr.coinstate.blocks.contains b.prev = true)
    (hvalid : validateBlockByItself C P b now = .ok ())
    (hskip : b.height % P.ibdValidationSkip ≠ 0)
    (hadd : addBlockNoValidation C n.mgr.coinstate b = .ok cs') :
    (handleBlockReceived C P n c r b now).2 = none ∧
    (handleBlockReceived C P n c r b now).1.mgr.coinstate = cs' ∧
    (handleBlockReceived C P n c r b now).1.wbuf = n.wbuf ++ [b] ∧
    (handleBlockReceived C P n c r b now).1.disk = n.disk := by
  rw [handleBlockReceived_eq, blockVerdict_adopt hr hnew hparent hvalid hskip hadd]
  exact ⟨rfl, rfl, rfl, rfl⟩

/-! ## non-vacuity -/

/-- the hypotheses of `catch_up` are satisfiable and its conclusion is not trivial: requester `G`, server `G ← A ← A2` (the
blocks of `C10Walk`'s examples): the missing blocks are `A`, `A2`, and after them the requester's head is at height 2 -/
example : ∃ (req srv req' : CoinState) (index : Map Nat Block) (hd hd' : Block),
    WFArrivals C [C10Walk.exG] ∧ foldBlocks C .empty [C10Walk.exG] = .ok req ∧
    WFArrivals C [C10Walk.exG, C10Walk.exA, C10Walk.exA2] ∧
    foldBlocks C .empty [C10Walk.exG, C10Walk.exA, C10Walk.exA2] = .ok srv ∧
    srv.current.bind srv.byHeightAt.get? = some index ∧ srv.head = some hd ∧
    missing C req index hd = [C10Walk.exA, C10Walk.exA2] ∧
    foldBlocks C req (missing C req index hd) = .ok req' ∧ req'.head = some hd' ∧ hd'.height = 2 :=
  ⟨_, _, _, _, _, _, C10Walk.exWF_G C, rfl, C10Walk.exWF_GAA C, rfl, rfl, rfl, rfl, rfl, rfl, rfl⟩

end C10Sync
