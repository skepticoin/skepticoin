import Proofs.Framing
import Proofs.Codec

/-!
# C11 — stream framing is independent of transport fragmentation

`feed st data` is one call of `MessageReceiver.receive(data)`; `feedAll st chunks` feeds the
chunks of a connection one after another and stops at the first exception. `bad` (which
payloads make the handler raise) and `maxSize` are arbitrary. `Same` compares payloads, the
error, and — when there is no error — the receiver state.
-/

namespace Model
namespace C11

variable (magic : Bytes) (maxSize : Nat) (bad : Bytes → Bool)

theorem feed_inv (st : RState) (d : Bytes) (h : st.Inv) : (feed magic maxSize bad st d).st.Inv :=
  recv_inv magic maxSize bad (app st d) h

theorem feed_andThen (st : RState) (a b : Bytes) (hinv : st.Inv) :
    (feed magic maxSize bad st (a ++ b)).Same
      ((feed magic maxSize bad st a).andThen fun s => feed magic maxSize bad s b) := by
  have h := recv_app magic maxSize bad (app st a) b hinv
  rwa [app_app] at h

/-- feeding `a` and then `b` is feeding `a ++ b`: same messages in the same order, same error
at the same point, same final state -/
theorem feed_append (st : RState) (a b : Bytes) (hinv : st.Inv) :
    let r₁ := feed magic maxSize bad st a
    (∀ e, r₁.err = some e →
      (feed magic maxSize bad st (a ++ b)).err = some e ∧
      (feed magic maxSize bad st (a ++ b)).payloads = r₁.payloads) ∧
    (r₁.err = none →
      (feed magic maxSize bad st (a ++ b)).Same
        ⟨(feed magic maxSize bad r₁.st b).st,
         r₁.payloads ++ (feed magic maxSize bad r₁.st b).payloads,
         (feed magic maxSize bad r₁.st b).err⟩) := by
  have h := feed_andThen magic maxSize bad st a b hinv
  refine ⟨fun e he => ?_, fun he => ?_⟩ <;> simp only [RResult.andThen, he] at h
  · exact ⟨h.2.1, h.1⟩
  · exact h

/-- a state in which `receive(b"")` finds nothing to do -/
def Quiet (st : RState) : Prop :=
  (recv magic maxSize bad st).Same ⟨st, [], none⟩

theorem recv_quiet (st : RState) (hinv : st.Inv) (he : (recv magic maxSize bad st).err = none) :
    Quiet magic maxSize bad (recv magic maxSize bad st).st := by
  have h := recv_app magic maxSize bad st [] hinv
  simp only [RResult.andThen, he, app_nil] at h
  obtain ⟨h1, h2, h3⟩ := h
  exact ⟨List.self_eq_append_right.mp h1, h2.symm.trans he, fun _ => (h3 he).symm⟩

theorem recv_init : recv magic maxSize bad RState.init = ⟨RState.init, [], none⟩ := by
  rw [recv_eq]; rfl

/-- the messages extracted and the point of refusal depend only on the bytes, not on how the
transport cut them into reads: every list of chunks behaves like its concatenation -/
theorem chunking_irrelevant_from (chunks : List Bytes) : ∀ (st : RState), st.Inv →
    Quiet magic maxSize bad st →
    (feedAll magic maxSize bad st chunks).Same (feed magic maxSize bad st chunks.flatten) := by
  induction chunks with
  | nil =>
    intro st _ hq
    show RResult.Same _ (recv magic maxSize bad (app st []))
    rw [app_nil]; exact hq.symm
  | cons c cs ih =>
    intro st hinv _
    rw [feedAll_cons]
    refine .trans (.andThen fun he => ?_) (feed_andThen magic maxSize bad st c cs.flatten hinv).symm
    exact ih _ (feed_inv magic maxSize bad st c hinv) (recv_quiet magic maxSize bad _ hinv he)

/-- on a fresh connection -/
theorem chunking_irrelevant (chunks : List Bytes) :
    (feedAll magic maxSize bad RState.init chunks).Same
      (feed magic maxSize bad RState.init chunks.flatten) :=
  chunking_irrelevant_from magic maxSize bad chunks _ nofun
    (by rw [Quiet, recv_init]; exact .refl _)

/-- two ways of cutting the same bytes give the same messages, the same refusal, the same state -/
theorem fragmentation_independent (c₁ c₂ : List Bytes) (h : c₁.flatten = c₂.flatten) :
    (feedAll magic maxSize bad RState.init c₁).Same (feedAll magic maxSize bad RState.init c₂) :=
  (chunking_irrelevant magic maxSize bad c₁).trans (h ▸ (chunking_irrelevant magic maxSize bad c₂).symm)

/-! ## well-formed frames are delivered exactly once and in order; a wrong magic or an
over-limit length is refused at that point -/

/-- the payloads, each framed (`frame`: magic, four bytes of length, payload), one after another -/
def frames (ps : List Bytes) : Bytes := ps.flatMap (frame magic)

theorem settle_header (n : Nat) (rest : Bytes) (hmagic : magic.length = 4) (hn : n < 256 ^ 4) :
    settle magic maxSize ⟨magic ++ natToBytes 4 n ++ rest, false, none⟩ =
      if n > maxSize then .error .tooBig else .ok ⟨rest, true, some n⟩ := by
  have hl := Codec.natToBytes_length 4 n
  rw [settle_eq_bind, List.append_assoc,
    phaseM_fire magic rfl (by rw [List.length_append, hmagic]; exact Nat.le_add_right ..)]
  simp only [List.take_left' hmagic, List.drop_left' hmagic, if_true]
  refine (phaseL_fire maxSize rfl (by rw [List.length_append, hl]; exact Nat.le_add_right ..)).trans ?_
  simp only [List.take_left' hl, List.drop_left' hl, Codec.bytesToNat_natToBytes_of_lt hn]

/-- within the size limit, of a length the four-byte field can hold, and the handler does not raise on it -/
def GoodPayload (p : Bytes) : Prop := p.length ≤ maxSize ∧ p.length < 256 ^ 4 ∧ bad p = false

theorem recv_frames (ps : List Bytes) (rest : Bytes) (hmagic : magic.length = 4)
    (hps : ∀ p ∈ ps, GoodPayload maxSize bad p) :
    recv magic maxSize bad ⟨frames magic ps ++ rest, false, none⟩ =
      ⟨(recv magic maxSize bad ⟨rest, false, none⟩).st,
       ps ++ (recv magic maxSize bad ⟨rest, false, none⟩).payloads,
       (recv magic maxSize bad ⟨rest, false, none⟩).err⟩ := by
  induction ps with
  | nil => rfl
  | cons p ps ih =>
    obtain ⟨h1, h2, h3⟩ := hps p (by simp)
    have e : frames magic (p :: ps) ++ rest =
        magic ++ natToBytes 4 p.length ++ (p ++ (frames magic ps ++ rest)) := by simp [frames, frame]
    rw [e, recv_eq, settle_header magic maxSize _ _ hmagic h2, if_neg (by omega)]
    -- the buffer holds the whole payload `p`: it is delivered, and the receiver goes on with what follows it
    simp only [List.length_append, Nat.le_add_right, if_true, List.take_left' rfl, List.drop_left' rfl, h3]
    rw [ih fun q hq => hps q (by simp [hq])]
    rfl

theorem feedAll_frames (ps : List Bytes) (rest : Bytes) (chunks : List Bytes)
    (hmagic : magic.length = 4) (hps : ∀ p ∈ ps, GoodPayload maxSize bad p)
    (hc : chunks.flatten = frames magic ps ++ rest) :
    (feedAll magic maxSize bad RState.init chunks).Same
      ⟨(recv magic maxSize bad ⟨rest, false, none⟩).st,
       ps ++ (recv magic maxSize bad ⟨rest, false, none⟩).payloads,
       (recv magic maxSize bad ⟨rest, false, none⟩).err⟩ := by
  have h := chunking_irrelevant magic maxSize bad chunks
  rwa [hc, feed, RState.init, List.nil_append, recv_frames magic maxSize bad ps rest hmagic hps] at h

/-- a stream of well-formed frames read on a fresh connection, however it is fragmented:
every message is delivered exactly once, in order, nothing is left over -/
theorem frames_delivered_once_in_order (ps : List Bytes) (chunks : List Bytes)
    (hmagic : magic.length = 4) (hps : ∀ p ∈ ps, GoodPayload maxSize bad p)
    (hc : chunks.flatten = frames magic ps) :
    (feedAll magic maxSize bad RState.init chunks).payloads = ps ∧
    (feedAll magic maxSize bad RState.init chunks).err = none ∧
    (feedAll magic maxSize bad RState.init chunks).st = RState.init := by
  have h := feedAll_frames magic maxSize bad ps [] chunks hmagic hps (by rw [hc, List.append_nil])
  rw [show (⟨[], false, none⟩ : RState) = RState.init from rfl, recv_init, List.append_nil] at h
  exact ⟨h.1, h.2.1, h.2.2 h.2.1⟩

/-- … and a wrong magic after any number of good frames is refused at exactly that point,
under every fragmentation: the good frames are delivered, then "Insufficient magic" -/
theorem bad_magic_refused_at_that_point (ps : List Bytes) (junk : Bytes) (chunks : List Bytes)
    (hmagic : magic.length = 4) (hps : ∀ p ∈ ps, GoodPayload maxSize bad p)
    (hj : 4 ≤ junk.length) (hne : junk.take 4 ≠ magic)
    (hc : chunks.flatten = frames magic ps ++ junk) :
    (feedAll magic maxSize bad RState.init chunks).payloads = ps ∧
    (feedAll magic maxSize bad RState.init chunks).err = some .magic := by
  have h := feedAll_frames magic maxSize bad ps junk chunks hmagic hps hc
  have hs : settle magic maxSize ⟨junk, false, none⟩ = .error .magic := by
    rw [settle_eq_bind, phaseM_fire magic rfl hj, if_neg hne]; rfl
  rw [recv_err magic maxSize bad hs, List.append_nil] at h
  exact ⟨h.1, h.2.1⟩

/-- … and likewise a length above the limit -/
theorem over_limit_length_refused_at_that_point (ps : List Bytes) (n : Nat) (tail : Bytes)
    (chunks : List Bytes) (hmagic : magic.length = 4) (hps : ∀ p ∈ ps, GoodPayload maxSize bad p)
    (hn : maxSize < n) (hn2 : n < 256 ^ 4)
    (hc : chunks.flatten = frames magic ps ++ (magic ++ natToBytes 4 n ++ tail)) :
    (feedAll magic maxSize bad RState.init chunks).payloads = ps ∧
    (feedAll magic maxSize bad RState.init chunks).err = some .tooBig := by
  have h := feedAll_frames magic maxSize bad ps _ chunks hmagic hps hc
  rw [recv_err magic maxSize bad ((settle_header magic maxSize n tail hmagic hn2).trans (if_pos hn)),
    List.append_nil] at h
  exact ⟨h.1, h.2.1⟩

/-! ## non-vacuity -/

example : GoodPayload 100 (fun _ => false) [1, 2, 3] := by
  simp [GoodPayload]

example : (feedAll [77, 65, 74, 73] 100 (fun _ => false) RState.init
    [[77, 65], [74, 73, 0, 0, 0], [2, 9, 8]]).payloads = [[9, 8]] :=
  (frames_delivered_once_in_order [77, 65, 74, 73] 100 (fun _ => false) [[9, 8]] _ rfl
    (by intro p hp; simp at hp; subst hp; simp [GoodPayload]) (by decide)).1

end C11
end Model
