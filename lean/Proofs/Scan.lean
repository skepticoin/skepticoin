/-! A loop that leaves at the first element failing a test — what `for x in l: if not p(x): raise …` becomes when it is
translated — in closed form. The loop is given by its two equations, so that every translated loop of this kind is an instance.
After it two facts for scans that carry a state: a fold that has raised stays raised, and what a scan keeping the set of elements
seen so far maintains. -/

namespace Model

theorem scan_eq {α : Type} {p : α → Bool} {loop : List α → Option Unit} (hnil : loop [] = some ())
    (hcons : ∀ x rest, loop (x :: rest) = if p x then loop rest else none) (l : List α) :
    loop l = if l.all p then some () else none := by
  induction l with
  | nil => exact hnil
  | cons x rest ih => rw [hcons, ih, List.all_cons]; cases p x <;> rfl

theorem scan_sum_eq {α : Type} {p : α → Bool} {v : α → Nat} {loop : List α → Nat → Option Nat}
    (hnil : ∀ t, loop [] t = some t)
    (hcons : ∀ x rest t, loop (x :: rest) t = if p x then loop rest (t + v x) else none) (l : List α) (t : Nat) :
    loop l t = if l.all p then some (t + (l.map v).sum) else none := by
  induction l generalizing t with
  | nil => rw [hnil]; rfl
  | cons x rest ih =>
    rw [hcons, ih, List.all_cons, List.map_cons, List.sum_cons, Nat.add_assoc]
    cases p x <;> rfl

theorem foldl_none {α σ : Type} {f : Option σ → α → Option σ} (hf : ∀ a, f none a = none) (l : List α) :
    l.foldl f none = none := by
  induction l with
  | nil => rfl
  | cons a l ih => rw [List.foldl_cons, hf, ih]

/-- one step of a duplicate scan with seen-set `s` -/
theorem nodup_unseen_cons {α : Type} {x : α} {xs s : List α} :
    ((x :: xs).Nodup ∧ ∀ y ∈ x :: xs, y ∉ s) ↔ x ∉ s ∧ xs.Nodup ∧ ∀ y ∈ xs, y ∉ x :: s := by
  simp only [List.nodup_cons, List.mem_cons, not_or, forall_eq_or_imp]
  constructor
  · rintro ⟨⟨h1, h2⟩, h3, h4⟩; exact ⟨h3, h2, fun y hy => ⟨fun e => h1 (e ▸ hy), h4 y hy⟩⟩
  · rintro ⟨h1, h2, h3⟩; exact ⟨⟨fun hm => (h3 x hm).1 rfl, h2⟩, h1, fun y hy => (h3 y hy).2⟩

end Model
