import Model.Node
import Proofs.Map

/-! The locator heights (`oldness`, `recentHeights`) and the inventory reply: what a reply consists of, and the server's scan
over a locator one entry at a time. The closed form of the reply over an active chain is `C10Walk.reply_of_scan_start` in
`Proofs/Walk.lean`. -/

namespace Model

theorem oldness_pairwise : oldness.Pairwise (· < ·) := by
  unfold oldness
  rw [List.pairwise_append]
  refine ⟨List.pairwise_lt_range, ?_, ?_⟩
  · rw [List.pairwise_map]
    exact List.pairwise_lt_range.imp fun {a b} h => Nat.pow_lt_pow_left (Nat.add_lt_add_right h 4) (by decide)
  · -- the dense part stops below 10, the squares start at 16
    intro a ha b hb
    obtain ⟨i, _, rfl⟩ := List.mem_map.mp hb
    have := List.mem_range.mp ha
    have : 4 ^ 2 ≤ (i + 4) ^ 2 := Nat.pow_le_pow_left (by omega) 2
    omega

theorem oldness_head : oldness.head? = some 0 := by decide

theorem mem_oldness_dense (k : Nat) (hk : k < 10) : k ∈ oldness :=
  List.mem_append_left _ (List.mem_range.mpr hk)

theorem mem_oldness_sparse (x : Nat) (hx : 4 ≤ x) (hx' : x < 64) : x ^ 2 ∈ oldness := by
  refine List.mem_append_right _ (List.mem_map.mpr ⟨x - 4, List.mem_range.mpr (by omega), ?_⟩)
  rw [show x - 4 + 4 = x by omega]

theorem mem_recentHeights (h o : Nat) (ho : o ∈ oldness) (hle : o ≤ h) : h - o ∈ recentHeights h := by
  unfold recentHeights
  rw [List.mem_map]
  exact ⟨o, List.mem_filter.mpr ⟨ho, by simpa using hle⟩, rfl⟩

theorem recentHeights_le (h x : Nat) (hx : x ∈ recentHeights h) : x ≤ h := by
  unfold recentHeights at hx
  rw [List.mem_map] at hx
  obtain ⟨o, _, rfl⟩ := hx
  omega

theorem inventoryReply_ok (C : Crypto) (P : Params) (cs : CoinState) (loc ids : List Bytes)
    (h : inventoryReply C P cs loc = .ok ids) :
    ∃ index hd, cs.current.bind cs.byHeightAt.get? = some index ∧ cs.head = some hd ∧
      (((inventoryReply.scan cs index loc = none ∨ inventoryReply.scan cs index loc = some none) ∧ ids = []) ∨
       ∃ start, inventoryReply.scan cs index loc = some (some start) ∧
         ids.length = min (start + P.inventorySize) (hd.height + 1) - start ∧
         ∀ k (hk : k < ids.length), ∃ blk, index.get? (start + k) = some blk ∧ ids[k] = blk.id C) := by
  unfold inventoryReply at h
  split at h
  · rename_i index hd hidx hhd
    refine ⟨index, hd, hidx, hhd, ?_⟩
    split at h
    · rename_i hs
      cases h
      exact Or.inl ⟨Or.inl hs, rfl⟩
    · rename_i hs
      cases h
      exact Or.inl ⟨Or.inr hs, rfl⟩
    · rename_i start hs
      right
      obtain ⟨hl, hk⟩ := (mapM_except_ok_iff _ _ _).1 h
      rw [List.length_range'] at hl
      refine ⟨start, hs, hl, ?_⟩
      intro k hk1
      have h2 := hk k hk1 (by rw [List.length_range']; omega)
      rw [List.getElem_range'] at h2
      simp only [Nat.one_mul] at h2
      cases hg : index.get? (start + k) with
      | none => rw [hg] at h2; cases h2
      | some blk =>
        rw [hg] at h2
        exact ⟨blk, rfl, (Except.ok.inj h2).symm⟩
  · cases h

theorem inventoryReply.scan_cons (cs : CoinState) (index : Map Nat Block) (e : Bytes) (rest : List Bytes) :
    inventoryReply.scan cs index (e :: rest) =
      match cs.blocks.get? e with
      | none => inventoryReply.scan cs index rest
      | some blk =>
        match index.get? (blk.height + 1) with
        | none => none
        | some nxt =>
          if nxt.prev = e then some (some (blk.height + 1)) else inventoryReply.scan cs index rest := rfl

theorem inventoryReply.scan_unknown (cs : CoinState) (index : Map Nat Block) : ∀ (loc : List Bytes),
    (∀ x ∈ loc, cs.blocks.get? x = none) → inventoryReply.scan cs index loc = some (some 1) := by
  intro loc
  induction loc with
  | nil => intro _; rfl
  | cons a rest ih =>
    intro h
    rw [inventoryReply.scan_cons, h a (List.mem_cons_self ..)]
    exact ih (fun x hx => h x (List.mem_cons_of_mem _ hx))

end Model
