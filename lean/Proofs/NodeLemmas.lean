import Model.Node
import Proofs.Validation
import Proofs.Chain

/-! The block handler as a verdict on the served chain state (`blockVerdict`) carried out on the node
(`BlockVerdict.exec`): `handleBlockReceived_eq` is the only place where `handleBlockReceived` is unfolded, the four
`handleMessage_*` equations the only place where `handleMessage` is. Before them, what the operations on a node
leave alone and the ways `addTxToPool` and `handleTxReceived` end. -/

namespace Model

@[simp] theorem Node.updatePeer_nonce (n : Node) (c : Nat) (f : PeerSt → PeerSt) : (n.updatePeer c f).nonce = n.nonce := rfl
@[simp] theorem Node.send_nonce (n : Node) (c : Nat) (o : Out) : (n.send c o).nonce = n.nonce := rfl
@[simp] theorem Node.broadcast_nonce (n : Node) (o : Out) : (n.broadcast o).nonce = n.nonce := rfl
@[simp] theorem Node.disconnect_nonce (n : Node) (c : Nat) : (n.disconnect c).nonce = n.nonce := rfl
@[simp] theorem Node.flush_nonce (C : Crypto) (n : Node) : (Node.flush C n).nonce = n.nonce := rfl
@[simp] theorem updatePeer_mgr (n : Node) (c : Nat) (f : PeerSt → PeerSt) : (n.updatePeer c f).mgr = n.mgr := rfl
@[simp] theorem send_mgr (n : Node) (c : Nat) (o : Out) : (n.send c o).mgr = n.mgr := rfl
@[simp] theorem send_wbuf (n : Node) (c : Nat) (o : Out) : (n.send c o).wbuf = n.wbuf := rfl
@[simp] theorem updatePeer_wbuf (n : Node) (c : Nat) (f : PeerSt → PeerSt) : (n.updatePeer c f).wbuf = n.wbuf := rfl
@[simp] theorem send_disk (n : Node) (c : Nat) (o : Out) : (n.send c o).disk = n.disk := rfl
@[simp] theorem broadcast_mgr (n : Node) (o : Out) : (n.broadcast o).mgr = n.mgr := rfl
@[simp] theorem disconnect_mgr (n : Node) (c : Nat) : (n.disconnect c).mgr = n.mgr := rfl
@[simp] theorem flush_mgr (C : Crypto) (n : Node) : (Node.flush C n).mgr = n.mgr := rfl
@[simp] theorem flush_wbuf (C : Crypto) (n : Node) : (Node.flush C n).wbuf = [] := rfl

theorem Node.updatePeer_length (n : Node) (c : Nat) (f : PeerSt → PeerSt) :
    (n.updatePeer c f).peers.length = n.peers.length := List.length_mapIdx

theorem Node.updatePeer_getElem? (n : Node) (c : Nat) (f : PeerSt → PeerSt) (i : Nat) :
    (n.updatePeer c f).peers[i]? = (n.peers[i]?).map fun p => if i = c then f p else p := List.getElem?_mapIdx

theorem updatePeer_map {α : Type} (n : Node) (c : Nat) (f : PeerSt → PeerSt) (g : PeerSt → α)
    (hg : ∀ p, g (f p) = g p) : (n.updatePeer c f).peers.map g = n.peers.map g := by
  apply List.ext_getElem?
  intro i
  simp only [List.getElem?_map, Node.updatePeer_getElem?]
  cases n.peers[i]? with
  | none => rfl
  | some p =>
    simp only [Option.map_some]
    split
    · rw [hg]
    · rfl

theorem peers_updatePeer (n : Node) (c : Nat) (f : PeerSt → PeerSt) (p : PeerSt) (hp : n.peers[c]? = some p) :
    (n.updatePeer c f).peers[c]? = some (f p) := by
  rw [Node.updatePeer_getElem?, hp, Option.map_some, if_pos rfl]

theorem peers_send (n : Node) (c : Nat) (o : Out) (p : PeerSt) (hp : n.peers[c]? = some p) :
    (n.send c o).peers[c]? = some { p with outbox := p.outbox ++ [o] } :=
  peers_updatePeer n c _ p hp

/-! `send` and `disconnect` are `updatePeer`s; updates of one connection compose -/

theorem Node.updatePeer_id (n : Node) (c : Nat) : (n.updatePeer c fun p => p) = n := by
  have : (n.peers.mapIdx fun i p => if i = c then p else p) = n.peers :=
    List.mapIdx_eq_iff.mpr fun i => by simp only [ite_self, Option.map_id']
  unfold Node.updatePeer
  rw [this]

theorem Node.updatePeer_updatePeer (n : Node) (c : Nat) (f g : PeerSt → PeerSt) :
    (n.updatePeer c f).updatePeer c g = n.updatePeer c fun p => g (f p) := by
  have : ((n.peers.mapIdx fun i p => if i = c then f p else p).mapIdx fun i p => if i = c then g p else p) =
      n.peers.mapIdx fun i p => if i = c then g (f p) else p := by
    rw [List.mapIdx_mapIdx, List.mapIdx_eq_mapIdx_iff]
    intro i _
    split <;> rfl
  unfold Node.updatePeer
  rw [this]

theorem Node.foldl_send {α : Type} (g : α → Out) (c : Nat) (l : List α) : ∀ n : Node,
    l.foldl (fun nn i => nn.send c (g i)) n = n.updatePeer c fun p => { p with outbox := p.outbox ++ l.map g } := by
  induction l with
  | nil => intro n; simp only [List.foldl_nil, List.map_nil, List.append_nil]; exact (Node.updatePeer_id n c).symm
  | cons a rest ih =>
    intro n
    rw [List.foldl_cons, ih, Node.send, Node.updatePeer_updatePeer]
    simp only [List.map_cons, List.append_assoc, List.singleton_append]

theorem broadcast_outbox_length (n : Node) (o : Out) :
    (n.broadcast o).peers.map (·.outbox.length) =
      n.peers.map (fun p => if p.active then p.outbox.length + 1 else p.outbox.length) := by
  simp only [Node.broadcast, List.map_map, Function.comp_def, apply_ite, List.length_append, List.length_singleton]

theorem broadcast_outboxes (n : Node) (o : Out) :
    (n.broadcast o).peers.map (·.outbox) =
      n.peers.map (fun p => if p.active then p.outbox ++ [o] else p.outbox) := by
  simp only [Node.broadcast, List.map_map, Function.comp_def, apply_ite]

theorem broadcast_active (n : Node) (o : Out) :
    (n.broadcast o).peers.map (·.active) = n.peers.map (·.active) := by
  simp only [Node.broadcast, List.map_map]
  apply List.map_congr_left
  intro p _
  simp only [Function.comp]
  split <;> simp [PeerSt.active]

theorem blockEq_self (b : Block) : blockEq b b = true := by
  simp [blockEq]

/-! The fold in the next three lemmas is the `disk` field of `Node.flush C n` (with `w = n.wbuf`, `d = n.disk`), the `if` one step of
it, as in `Accepted.disk`. -/

theorem flush_foldl_mono (C : Crypto) (x : Block) : ∀ (w d : List Block), x ∈ d →
    x ∈ w.foldl (fun d b => if d.any (fun x => x.id C = b.id C) then d else d ++ [b]) d := by
  intro w
  induction w with
  | nil => intro d h; exact h
  | cons b rest ih =>
    intro d h
    simp only [List.foldl_cons]
    apply ih
    split
    · exact h
    · exact List.mem_append_left _ h

theorem flush_single_stored (C : Crypto) (d : List Block) (b : Block) :
    ∃ x ∈ (if d.any (fun x => x.id C = b.id C) then d else d ++ [b]), x.id C = b.id C := by
  split
  · rename_i h
    simp only [List.any_eq_true, decide_eq_true_eq] at h
    exact h
  · exact ⟨b, by simp, rfl⟩

theorem flush_foldl_buffered (C : Crypto) (x : Block) : ∀ (w d : List Block), x ∈ w →
    ∃ y ∈ w.foldl (fun d b => if d.any (fun x => x.id C = b.id C) then d else d ++ [b]) d, y.id C = x.id C := by
  intro w
  induction w with
  | nil => intro d h; cases h
  | cons b rest ih =>
    intro d h
    simp only [List.foldl_cons]
    rcases List.mem_cons.mp h with h | h
    · subst h
      obtain ⟨y, hy, hid⟩ := flush_single_stored C d x
      exact ⟨y, flush_foldl_mono C y rest _ hy, hid⟩
    · exact ih _ h

theorem cleanupPool_eq_self (C : Crypto) (cs : CoinState) (pool : List CTx)
    (h : ∀ t ∈ pool, validateTxAtHead C cs t = .ok ()) : cleanupPool C cs pool = pool := by
  unfold cleanupPool
  rw [List.filter_eq_self]
  intro t ht
  rw [h t ht]

theorem headUtxo_of_current {cs : CoinState} {c : Bytes} (h : cs.current = some c) : headUtxo cs = cs.utxoAt.get? c := by
  rw [headUtxo, h, Option.bind_some]

theorem validateTxAtHead_of_headUtxo (C : Crypto) {cs : CoinState} {u : Utxo} (h : headUtxo cs = some u) (t : CTx) :
    validateTxAtHead C cs t = validateTxInState C u t := by
  rw [validateTxAtHead, h]

/-- the checks of `add_transaction_to_pool`, in order -/
def poolChecks (C : Crypto) (P : Params) (m : ChainMgr) (t : CTx) : Except Err Unit := do
  validateTxByItself P t
  validateTxAtHead C m.coinstate t
  require (decide (allRefs (m.pool ++ [t])).Nodup) "Duplicate output_reference."

theorem poolChecks_ok (C : Crypto) (P : Params) (m : ChainMgr) (t : CTx) :
    poolChecks C P m t = .ok () ↔
      validateTxByItself P t = .ok () ∧ validateTxAtHead C m.coinstate t = .ok () ∧ (allRefs (m.pool ++ [t])).Nodup := by
  simp only [poolChecks, bind_ok_unit, require_ok, decide_eq_true_eq]

theorem poolChecks_conflict (C : Crypto) (P : Params) (m : ChainMgr) (t : CTx) (h1 : validateTxByItself P t = .ok ())
    (h2 : validateTxAtHead C m.coinstate t = .ok ()) (h3 : ¬ (allRefs (m.pool ++ [t])).Nodup) :
    poolChecks C P m t = .error (.validation "Duplicate output_reference.") := by
  simp only [poolChecks, h1, h2, ok_bind, require, h3, decide_false, Bool.false_eq_true, ↓reduceIte]

theorem addTxToPool_eq (C : Crypto) (P : Params) (m : ChainMgr) (t : CTx) :
    addTxToPool C P m t =
      match poolChecks C P m t with
      | .ok _ => .ok ({ m with pool := m.pool ++ [t] }, true)
      | .error (.validation _) => .ok (m, false)
      | .error e => .error e := rfl

theorem addTxToPool_admitted (C : Crypto) (P : Params) (m m' : ChainMgr) (t : CTx) :
    addTxToPool C P m t = .ok (m', true) ↔ poolChecks C P m t = .ok () ∧ m' = { m with pool := m.pool ++ [t] } := by
  rw [addTxToPool_eq]
  cases poolChecks C P m t with
  | ok _ => simp [eq_comm]
  | error e => cases e <;> simp

theorem addTxToPool_refused (C : Crypto) (P : Params) (m m' : ChainMgr) (t : CTx) :
    addTxToPool C P m t = .ok (m', false) ↔ (∃ msg, poolChecks C P m t = .error (.validation msg)) ∧ m' = m := by
  rw [addTxToPool_eq]
  cases poolChecks C P m t with
  | ok _ => simp
  | error e => cases e <;> simp [eq_comm]

theorem addTxToPool_error (C : Crypto) (P : Params) (m : ChainMgr) (t : CTx) (e : Err) :
    addTxToPool C P m t = .error e ↔ poolChecks C P m t = .error e ∧ ∀ msg, e ≠ .validation msg := by
  rw [addTxToPool_eq]
  cases poolChecks C P m t with
  | ok _ => simp
  | error e' => cases e' <;> simp +contextual [eq_comm]

theorem handleTxReceived_cases (C : Crypto) (P : Params) (n : Node) (t : CTx) :
    ((n.mgr.pool.any (fun x => x.tx = t.tx) = true ∨ ∃ m, addTxToPool C P n.mgr t = .ok (m, false)) ∧
      handleTxReceived C P n t = (n, none)) ∨
    (∃ e, addTxToPool C P n.mgr t = .error e ∧ handleTxReceived C P n t = (n, some e)) ∨
    (∃ m, addTxToPool C P n.mgr t = .ok (m, true) ∧
      handleTxReceived C P n t = (({ n with mgr := m } : Node).broadcast (.tx t), none)) := by
  -- the ends of `handleTxReceived`: already pooled; `addTxToPool` raises; admitted; refused
  unfold handleTxReceived
  split
  · rename_i h; exact .inl ⟨.inl h, rfl⟩
  · split
    · rename_i e h; exact .inr (.inl ⟨e, h, rfl⟩)
    · rename_i m h; exact .inr (.inr ⟨m, h, rfl⟩)
    · rename_i m h
      rw [((addTxToPool_refused C P n.mgr m t).1 h).2]
      exact .inl ⟨.inr ⟨m, h⟩, rfl⟩

theorem handleTxReceived_pending (C : Crypto) (P : Params) {n : Node} {t : CTx}
    (h : n.mgr.pool.any (fun x => x.tx = t.tx) = true) : handleTxReceived C P n t = (n, none) := by
  rw [handleTxReceived, if_pos h]

theorem handleMessage_none (C : Crypto) (P : Params) {n : Node} {c : Nat} (hp : n.peers[c]? = none) (i r : Nat) (m : InMsg)
    (now : Int) : handleMessage C P n c i r m now = (n, some (.other "no such peer")) := by
  unfold handleMessage
  rw [hp]

theorem handleMessage_hello (C : Crypto) (P : Params) {n : Node} {c : Nat} {p : PeerSt} (hp : n.peers[c]? = some p)
    (i r nonce port : Nat) (now : Int) :
    handleMessage C P n c i r (.hello nonce port) now =
      if p.outgoing && nonce = n.nonce then
        ((n.updatePeer c fun p => { p with helloReceived := true }).disconnect c, none)
      else (n.updatePeer c fun p => { p with helloReceived := true }, none) := by
  unfold handleMessage
  rw [hp]

theorem handleMessage_ungreeted (C : Crypto) (P : Params) {n : Node} {c : Nat} {p : PeerSt} (hp : n.peers[c]? = some p)
    (hr : p.helloReceived = false) (i r : Nat) {m : InMsg} (hm : ∀ nonce port, m ≠ .hello nonce port) (now : Int) :
    handleMessage C P n c i r m now = (n, some (.other "First message must be Hello")) := by
  unfold handleMessage
  cases m with
  | hello nonce port => exact absurd rfl (hm nonce port)
  | _ => simp only [hp, hr, Bool.not_false, ↓reduceIte]

/-- for a greeting see `handleMessage_hello` -/
theorem handleMessage_greeted (C : Crypto) (P : Params) {n : Node} {c : Nat} {p : PeerSt} (hp : n.peers[c]? = some p)
    (hg : p.helloReceived = true) (i r : Nat) (m : InMsg) (now : Int) :
    handleMessage C P n c i r m now =
      match m with
      | .hello nonce port => handleMessage C P n c i r (.hello nonce port) now
      | .getBlocks loc =>
        (match inventoryReply C P n.mgr.coinstate loc with
          | .ok ids => (n.send c (.inventory ids i), none)
          | .error e => (n, some e))
      | .inventory ids =>
        if ids.length > P.inventorySize then (n, some (.other "Inventory msg too big"))
        else if ids.isEmpty then (n.updatePeer c fun p => { p with waitingForInventory := false }, none)
        else
          (((ids.filter fun x => !n.mgr.coinstate.blocks.contains x).foldl (fun nn x => nn.send c (.getData x))
              (n.updatePeer c fun p => { p with pendingInventory := p.pendingInventory ++ ids })).send c
            (.getBlocks [ids.getLast!]), none)
      | .getData ty id =>
        if ty ≠ [0, 0] then (n, some (.other "NotImplementedError"))
        else match n.mgr.coinstate.blocks.get? id with
          | none => (n, none)
          | some b => (n.send c (.block b i), none)
      | .dataBlock b => handleBlockReceived C P n c r b now
      | .dataTx t => handleTxReceived C P n t
      | .dataHeader => (n, some (.other "NotImplementedError"))
      | .getPeers => (n.send c .peers, none)
      | .peers => (n.updatePeer c fun p => p, none) := by
  cases m with
  | hello nonce port => rfl
  | _ =>
    unfold handleMessage
    simp only [hp, hg, Bool.not_true, Bool.false_eq_true, ↓reduceIte] <;> rfl

/-- what `handle_block_received` decides to do with a block; the decision looks at the served chain state only -/
inductive BlockVerdict where
  /-- known id, unknown parent, or invalid by itself -/
  | ignore
  /-- `add_block_no_validation` raised -/
  | raise (e : Err)
  /-- applied, then refused by validation against the prior state -/
  | refuse
  /-- applied and validated; `relay`: it is the new head and came unsolicited -/
  | accept (changed : CoinState) (relay : Bool)
  /-- applied without validation (bulk download, off the validation stride) -/
  | adopt (changed : CoinState)

/-- the tests of `handle_block_received`, in its order, returning what to do instead of doing it -/
def blockVerdict (C : Crypto) (P : Params) (cs : CoinState) (r : Nat) (b : Block) (now : Int) : BlockVerdict :=
  if cs.blocks.contains (b.id C) then .ignore
  else if !cs.blocks.contains b.prev then .ignore
  else match validateBlockByItself C P b now with
    | .error _ => .ignore
    | .ok _ =>
      match addBlockNoValidation C cs b with
      | .error e => .raise e
      | .ok changed =>
        if r = 0 ∨ b.height % P.ibdValidationSkip = 0 then
          match validateBlockInState C P cs b with
          | .error _ => .refuse
          | .ok _ => .accept changed (match changed.head with | some hd => blockEq b hd && decide (r = 0) | none => false)
        else .adopt changed

/-- `if last_known_valid_coinstate: set_coinstate(last_known_valid_coinstate)` of `handle_block_received`, after a block failed
validation against the prior state -/
def fallBack (C : Crypto) (m : ChainMgr) : ChainMgr :=
  match m.lastValid with
  | some lv => setCoinstate C m lv true
  | none => m

/-- carry a verdict out on the node; `remove_from_inventory` comes first on every path -/
def BlockVerdict.exec (C : Crypto) (n : Node) (c : Nat) (b : Block) (v : BlockVerdict) : HResult :=
  let n₀ := n.updatePeer c fun p => { p with pendingInventory := p.pendingInventory.erase (b.id C) }
  match v with
  | .ignore => (n₀, none)
  | .raise e => (n₀, some e)
  | .refuse => ({ n₀ with mgr := fallBack C n.mgr, wbuf := [] }, none)
  | .accept changed relay =>
    let n₂ := Node.flush C { n₀ with mgr := setCoinstate C n.mgr changed true, wbuf := n.wbuf ++ [b] }
    (if relay then n₂.broadcast (.block b 0) else n₂, none)
  | .adopt changed => ({ n₀ with mgr := setCoinstate C n.mgr changed false, wbuf := n.wbuf ++ [b] }, none)

/-- The handler's last exit, `KeyError` on a state without head, is never taken (`add_ok_head_some`), so it has no
verdict. -/
theorem handleBlockReceived_eq (C : Crypto) (P : Params) (n : Node) (c r : Nat) (b : Block) (now : Int) :
    handleBlockReceived C P n c r b now = (blockVerdict C P n.mgr.coinstate r b now).exec C n c b := by
  -- the cases of `blockVerdict`: 1 known id, 2 unknown parent, 3 invalid by itself (all `ignore`); 4 `raise`; 5 `refuse`;
  -- 6 `accept`; 7 `adopt`. Only in 6 and 7 does the handler reach the look-up of the new head.
  fun_cases blockVerdict C P n.mgr.coinstate r b now
  case case6 hk hp _ hv changed hadd hr _ hs =>
    obtain ⟨hd, hhd⟩ := add_ok_head_some C hadd
    simp only [handleBlockReceived, hk, hp, hv, hadd, hr, hs, hhd, ↓reduceIte, Bool.false_eq_true]
    cases (blockEq b hd && decide (r = 0)) <;> rfl
  case case7 hk hp _ hv changed hadd hr =>
    obtain ⟨hd, hhd⟩ := add_ok_head_some C hadd
    obtain ⟨hr0, hm⟩ := not_or.mp hr
    simp only [handleBlockReceived, hk, hp, hv, hadd, hr0, hm, or_self, hhd, ↓reduceIte, Bool.false_eq_true,
      decide_false, Bool.and_false]
    rfl
  all_goals (simp only [handleBlockReceived, *, ↓reduceIte, Bool.false_eq_true]; rfl)

theorem handleBlockReceived_nonce (C : Crypto) (P : Params) (n : Node) (c r : Nat) (b : Block) (now : Int) :
    (handleBlockReceived C P n c r b now).1.nonce = n.nonce := by
  rw [handleBlockReceived_eq]
  cases blockVerdict C P n.mgr.coinstate r b now <;> try rfl
  simp only [BlockVerdict.exec]
  split <;> simp

theorem blockVerdict_spec (C : Crypto) (P : Params) (cs : CoinState) (r : Nat) (b : Block) (now : Int) :
    match blockVerdict C P cs r b now with
    | .ignore => True
    | .raise e => addBlockNoValidation C cs b = .error e
    | .refuse => ∀ cs', addBlock C P cs b now ≠ .ok cs'
    | .accept changed relay => cs.blocks.contains (b.id C) = false ∧ addBlock C P cs b now = .ok changed ∧
        addBlockNoValidation C cs b = .ok changed ∧
        ∃ hd, changed.head = some hd ∧ relay = (blockEq b hd && decide (r = 0))
    | .adopt changed => cs.blocks.contains (b.id C) = false ∧ addBlockNoValidation C cs b = .ok changed ∧ r ≠ 0 := by
  -- cases numbered as in `handleBlockReceived_eq`; 1 to 3 are `ignore`
  fun_cases blockVerdict C P cs r b now
  case case4 hadd => exact hadd
  case case5 hs =>
    intro cs' h
    rw [((addBlock_ok C P cs cs' b now).1 h).2.1] at hs
    cases hs
  case case6 hk _ _ hv changed hadd _ _ hs =>
    obtain ⟨hd, hhd⟩ := add_ok_head_some C hadd
    exact ⟨Bool.eq_false_iff.mpr hk, (addBlock_ok C P cs changed b now).2 ⟨hv, hs, hadd⟩, hadd, hd, hhd, by rw [hhd]⟩
  case case7 hk _ _ _ changed hadd hr => exact ⟨Bool.eq_false_iff.mpr hk, hadd, fun h => hr (.inl h)⟩
  all_goals trivial

theorem BlockVerdict.eq_raise_of_err {C : Crypto} {n : Node} {c : Nat} {b : Block} {v : BlockVerdict} {e : Err}
    (h : (v.exec C n c b).2 = some e) : v = .raise e := by
  cases v with
  | raise e' => cases h; rfl
  | _ => cases h

theorem blockVerdict_known (C : Crypto) (P : Params) (cs : CoinState) (r : Nat) (b : Block) (now : Int)
    (hk : cs.blocks.contains (b.id C) = true) : blockVerdict C P cs r b now = .ignore := by
  unfold blockVerdict
  rw [if_pos hk]

theorem blockVerdict_adopt {C : Crypto} {P : Params} {cs cs' : CoinState} {r : Nat} {b : Block} {now : Int} (hr : r ≠ 0)
    (hnew : cs.blocks.contains (b.id C) = false) (hparent : cs.blocks.contains b.prev = true)
    (hvalid : validateBlockByItself C P b now = .ok ()) (hskip : b.height % P.ibdValidationSkip ≠ 0)
    (hadd : addBlockNoValidation C cs b = .ok cs') : blockVerdict C P cs r b now = .adopt cs' := by
  simp only [blockVerdict, hnew, hparent, hvalid, hadd, hr, hskip, or_self, Bool.false_eq_true, ↓reduceIte, Bool.not_true]

theorem fallBack_some (C : Crypto) {m : ChainMgr} {lv : CoinState} (h : m.lastValid = some lv) :
    fallBack C m = setCoinstate C m lv true := by
  unfold fallBack
  rw [h]

theorem fallBack_eq_self (C : Crypto) (m : ChainMgr) (hlv : m.lastValid = some m.coinstate)
    (hclean : cleanupPool C m.coinstate m.pool = m.pool) : fallBack C m = m := by
  rw [fallBack_some C hlv, setCoinstate, hclean, if_pos rfl, ← hlv]

/-- the block was accepted: what the node looks like afterwards -/
structure Accepted (C : Crypto) (P : Params) (n : Node) (b : Block) (now : Int) (r : HResult)
    (changed : CoinState) (hd : Block) : Prop where
  ok : addBlock C P n.mgr.coinstate b now = .ok changed
  step : addBlockNoValidation C n.mgr.coinstate b = .ok changed
  mgr : r.1.mgr = setCoinstate C n.mgr changed true
  wbuf : r.1.wbuf = []
  disk : r.1.disk = if n.disk.any (fun x => x.id C = b.id C) then n.disk else n.disk ++ [b]
  err : r.2 = none
  nonce : r.1.nonce = n.nonce
  active : r.1.peers.map (·.active) = n.peers.map (·.active)
  head : changed.head = some hd
  outbox : r.1.peers.map (·.outbox.length) =
    if blockEq b hd then n.peers.map (fun p => if p.active then p.outbox.length + 1 else p.outbox.length)
    else n.peers.map (·.outbox.length)

theorem BlockVerdict.exec_accept_mgr (C : Crypto) (n : Node) (c : Nat) (b : Block) (changed : CoinState) (relay : Bool) :
    ((BlockVerdict.accept changed relay).exec C n c b).1.mgr = setCoinstate C n.mgr changed true := by
  cases relay <;> rfl

theorem BlockVerdict.exec_accept_outboxes (C : Crypto) (n : Node) (c : Nat) (b : Block) (changed : CoinState)
    (relay : Bool) :
    ((BlockVerdict.accept changed relay).exec C n c b).1.peers.map (·.outbox) =
      n.peers.map fun p => if relay && p.active then p.outbox ++ [Out.block b 0] else p.outbox := by
  cases relay
  · exact updatePeer_map n c _ _ (fun _ => rfl)
  · exact (broadcast_outboxes _ _).trans (updatePeer_map n c _ _ (fun _ => rfl))

/-- the verdict `accept` with `relay = blockEq b hd`, that of a block that came unsolicited (`r = 0` in `blockVerdict`),
which is the case `Accepted.outbox` describes -/
theorem Accepted.of_exec {C : Crypto} {P : Params} {n : Node} {b : Block} {now : Int} {changed : CoinState} {hd : Block}
    (c : Nat) (hw : n.wbuf = []) (hok : addBlock C P n.mgr.coinstate b now = .ok changed)
    (hstep : addBlockNoValidation C n.mgr.coinstate b = .ok changed) (hhd : changed.head = some hd) :
    Accepted C P n b now ((BlockVerdict.accept changed (blockEq b hd)).exec C n c b) changed hd := by
  have hpe := fun {α : Type} (g : PeerSt → α) hg => updatePeer_map n c
    (fun p => { p with pendingInventory := p.pendingInventory.erase (b.id C) }) g hg
  have hdisk : ∀ relay, ((BlockVerdict.accept changed relay).exec C n c b).1.disk =
      if n.disk.any (fun x => x.id C = b.id C) then n.disk else n.disk ++ [b] := by
    intro relay; simp only [BlockVerdict.exec, hw]; cases relay <;> rfl
  cases hbe : blockEq b hd
  · exact ⟨hok, hstep, rfl, rfl, hdisk _, rfl, rfl, hpe _ (fun _ => rfl), hhd, by rw [hbe]; exact hpe _ (fun _ => rfl)⟩
  · exact ⟨hok, hstep, rfl, rfl, hdisk _, rfl, rfl, (broadcast_active _ _).trans (hpe _ (fun _ => rfl)), hhd,
      by rw [hbe]; exact (broadcast_outbox_length _ _).trans (hpe _ (fun _ => rfl))⟩

end Model
