import Proofs.Chain

/-!
Value accounting: how `totalValue` moves through `utoApplyBlock`, and the fees of a block as the
looked-up values of its references minus its outputs (`blockFees_eq`), not negative when no transaction overspends.

`N w R` is the value held in `w` under keys that are not in `R`: spending a reference moves it into
`R` (`N_erase`), so the accounting needs no freshness assumption on transaction ids.
-/

namespace Model

/-- membership of a reference in a list is decidable through `DecidableEq` (the derived `BEq` of
`OutRef` carries no `LawfulBEq` instance) -/
instance OutRef.decMem (k : OutRef) (R : List OutRef) : Decidable (k ∈ R) :=
  @List.instDecidableMemOfLawfulBEq OutRef instBEqOfDecidableEq inferInstance k R

/-- total value held under keys not in `R` -/
def N (w : Utxo) (R : List OutRef) : Nat :=
  ((w.filter (fun (p : OutRef × Output) => decide (p.1 ∉ R))).map (·.2.value)).sum

/-- the looked-up values of the references `R`, 0 for one that is not there -/
def refsValue (u : Utxo) (R : List OutRef) : Nat := (R.map (uval u)).sum

/-- all outputs of all transactions -/
def outsTotal (txs : List CTx) : Nat := (txs.map (fun t => outputsValue t.tx.outputs)).sum

theorem N_cons (k : OutRef) (o : Output) (m : Utxo) (R : List OutRef) :
    N ((k, o) :: m) R = (if k ∈ R then 0 else o.value) + N m R := by
  unfold N
  by_cases h : k ∈ R <;> simp [h]

theorem N_nil_map (R : List OutRef) : N [] R = 0 := rfl

theorem N_nil (w : Utxo) : N w [] = totalValue w := by
  have : w.filter (fun _ => true) = w := List.filter_eq_self.2 (fun _ _ => rfl)
  simp [N, totalValue, this]

theorem N_erase (w : Utxo) (r : OutRef) (R : List OutRef) : N (w.erase r) R = N w (r :: R) := by
  rw [N, N, Map.erase, List.filter_filter]
  simp only [List.mem_cons, not_or, Bool.decide_and, Bool.and_comm]

theorem N_mono (w : Utxo) {R R' : List OutRef} (h : R ⊆ R') : N w R' ≤ N w R := by
  induction w with
  | nil => exact Nat.le_refl _
  | cons p m ih =>
    obtain ⟨k, o⟩ := p
    rw [N_cons, N_cons]
    by_cases hk : k ∈ R
    · rw [if_pos hk, if_pos (h hk)]
      omega
    · rw [if_neg hk]
      split <;> omega

theorem N_append_le (w : Utxo) (R' R : List OutRef) : N w (R' ++ R) ≤ N w R :=
  N_mono w (List.subset_append_right R' R)

theorem N_set_le (w : Utxo) (k : OutRef) (o : Output) (R : List OutRef) :
    N (w.set k o) R ≤ N w R + o.value := by
  unfold Map.set
  rw [N_cons, N_erase]
  have := N_mono w (List.subset_cons_self k R)
  split <;> omega

theorem N_addOutputs_le (txid : Bytes) (R : List OutRef) (outs : List Output) (w : Utxo) (i : Nat) :
    N (addOutputs w txid outs i) R ≤ N w R + outputsValue outs := by
  fun_induction addOutputs w txid outs i with
  | case1 => exact Nat.le_refl _
  | case2 w o rest i ih =>
    have := N_set_le w ⟨txid, i⟩ o R
    rw [outputsValue_cons]
    omega

theorem N_removeInputs (R : List OutRef) {ins : List Input} {w w' : Utxo} (h : removeInputs w ins = .ok w') :
    N w' R = N w (ins.map (·.ref) ++ R) := by
  -- the ends of `removeInputs`: 1 no input left; the first reference is 2 there, 3 not there
  fun_induction removeInputs w ins with
  | case1 => cases h; rfl
  | case2 w i rest _ ih => rw [ih h, N_erase]; rfl
  | case3 => cases h

theorem outsTotal_cons (t : CTx) (rest : List CTx) :
    outsTotal (t :: rest) = outputsValue t.tx.outputs + outsTotal rest := by
  simp [outsTotal]

theorem N_utoApplyTxs (C : Crypto) (R : List OutRef) (txs : List CTx) (w w' : Utxo)
    (h : utoApplyTxs C w txs = .ok w') : N w' R ≤ N w (allRefs txs ++ R) + outsTotal txs := by
  fun_induction utoApplyTxs C w txs with
  | case1 => cases h; exact Nat.le_refl _
  | case2 w t rest ih =>
    obtain ⟨w₁, h1, h⟩ := (utoApplyTxs_cons_ok C).1 h
    obtain ⟨w₀, h0, rfl⟩ := utoApplyTx_false_of_ok C h1
    have a := ih _ h
    have b := N_addOutputs_le (t.id C) (allRefs rest ++ R) t.tx.outputs w₀ 0
    rw [N_removeInputs _ h0] at b
    rw [allRefs_cons, outsTotal_cons, List.append_assoc]
    omega

theorem totalValue_utoApplyBlock (C : Crypto) (w w' : Utxo) (b : Block) (cb : CTx) (rest : List CTx)
    (htx : b.txs = cb :: rest) (h : utoApplyBlock C w b = .ok w') :
    totalValue w' ≤ N w (allRefs rest) + outputsValue cb.tx.outputs + outsTotal rest := by
  rw [utoApplyBlock_cons C htx] at h
  have a := N_utoApplyTxs C [] rest _ w' h
  have b := N_addOutputs_le (cb.id C) (allRefs rest) cb.tx.outputs w 0
  rw [N_nil, List.append_nil] at a
  omega

theorem N_cons_add_le (w : Utxo) (r : OutRef) (R : List OutRef) (hr : r ∉ R) :
    N w (r :: R) + uval w r ≤ N w R := by
  induction w with
  | nil => exact Nat.le_refl 0
  | cons p m ih =>
    obtain ⟨k, o⟩ := p
    rw [N_cons, N_cons, uval, Map.get?_cons]
    by_cases h1 : k = r
    · subst h1
      simp only [List.mem_cons, true_or, ↓reduceIte, hr, Option.map_some, Option.getD_some]
      omega
    · simp only [List.mem_cons, h1, false_or, ↓reduceIte]
      rw [uval] at ih
      omega

theorem N_add_refsValue_le (u : Utxo) : ∀ (R : List OutRef), R.Nodup →
    N u R + refsValue u R ≤ totalValue u := by
  intro R
  induction R with
  | nil => intro _; simp [N_nil, refsValue]
  | cons r R ih =>
    intro hnd
    rw [List.nodup_cons] at hnd
    have a := ih hnd.2
    have b := N_cons_add_le u r R hnd.1
    simp only [refsValue, List.map_cons, List.sum_cons] at a ⊢
    omega

theorem refsValue_append (u : Utxo) (R R' : List OutRef) :
    refsValue u (R ++ R') = refsValue u R + refsValue u R' := by
  simp [refsValue]

theorem inputsValue_eq (u : Utxo) (ins : List Input) (total : Nat) (h : inputsValue u ins = .ok total) :
    total = refsValue u (ins.map (·.ref)) := by
  rw [refsValue, List.map_map]
  exact ((inputsValue_eq_ok_iff u ins total).1 h).2

theorem blockFees_cons_ok {u : Utxo} {t : CTx} {rest : List CTx} {fees : Int}
    (h : blockFees u (t :: rest) = .ok fees) :
    ∃ i r, inputsValue u t.tx.inputs = .ok i ∧ blockFees u rest = .ok r ∧
      fees = (i : Int) - outputsValue t.tx.outputs + r := by
  obtain ⟨f, hf, h⟩ := (bind_ok_iff ..).1 h
  obtain ⟨r, hr, h⟩ := (bind_ok_iff ..).1 h
  obtain ⟨i, hi, hf⟩ := (bind_ok_iff ..).1 hf
  cases h
  cases hf
  exact ⟨i, r, hi, hr, rfl⟩

theorem blockFees_eq (u : Utxo) (rest : List CTx) (fees : Int) (h : blockFees u rest = .ok fees) :
    fees = (refsValue u (allRefs rest) : Int) - (outsTotal rest : Int) := by
  fun_induction blockFees u rest generalizing fees with
  | case1 => cases h; rfl
  | case2 t rest ih =>
    obtain ⟨i, r, hi, hr, rfl⟩ := blockFees_cons_ok h
    rw [ih r hr, inputsValue_eq u _ _ hi, allRefs_cons, refsValue_append, outsTotal_cons]
    omega

theorem blockFees_nonneg (u : Utxo) (rest : List CTx) (fees : Int)
    (hf : blockFees u rest = .ok fees)
    (hall : ∀ t ∈ rest, ∃ total, inputsValue u t.tx.inputs = .ok total ∧ outputsValue t.tx.outputs ≤ total) :
    0 ≤ fees := by
  induction rest generalizing fees with
  | nil => cases hf; exact Int.le_refl _
  | cons t rest ih =>
    obtain ⟨i, r, hi, hr, rfl⟩ := blockFees_cons_ok hf
    obtain ⟨total, ht, hle⟩ := hall t List.mem_cons_self
    rw [hi] at ht
    cases ht
    have := ih r hr (fun t' ht' => hall t' (List.mem_cons_of_mem _ ht'))
    omega

end Model
