import Model.Node
import Proofs.NodeLemmas

/-!
Locality of the handlers: `EqExceptAt c a b` says that two nodes differ at most in connection `c`. Whatever a handler does on
connection `c` short of accepting a block or admitting a transaction leaves the node `EqExceptAt c` what it was, and handling an
event of another connection is a congruence for it.
-/

namespace Model

-- `ContainedAt` and `EqExceptAt` repeat the bodies of `C20.Contained` and `C20.EqExcept` because `Proofs` cannot import `Props`
/-- same body as `C20.Contained` (which lives in `Props/C20.lean`) -/
def ContainedAt (n n' : Node) (c : Nat) : Prop :=
  n'.mgr.coinstate = n.mgr.coinstate ∧ n'.mgr.pool = n.mgr.pool ∧ n'.mgr.lastValid = n.mgr.lastValid ∧
  n'.wbuf = n.wbuf ∧ n'.disk = n.disk ∧ n'.peers.length = n.peers.length ∧
  ∀ j, j ≠ c → n'.peers[j]? = n.peers[j]?

/-- same body as `C20.EqExcept` (which lives in `Props/C20Stream.lean`) -/
def EqExceptAt (c : Nat) (a b : Node) : Prop :=
  a.mgr = b.mgr ∧ a.wbuf = b.wbuf ∧ a.disk = b.disk ∧ a.nonce = b.nonce ∧ a.peers.length = b.peers.length ∧
  ∀ j, j ≠ c → a.peers[j]? = b.peers[j]?

/-- the last two conjuncts of `EqExceptAt`, as a relation on the connection lists: a proof of it closes an `EqExceptAt` after
`mgr`, `wbuf`, `disk`, `nonce` -/
def PeersEq (c : Nat) (pa pb : List PeerSt) : Prop :=
  pa.length = pb.length ∧ ∀ j, j ≠ c → pa[j]? = pb[j]?

theorem PeersEq.mapIdx {c : Nat} {pa pb : List PeerSt} (h : PeersEq c pa pb) (g : Nat → PeerSt → PeerSt) :
    PeersEq c (pa.mapIdx g) (pb.mapIdx g) := by
  refine ⟨by simp only [List.length_mapIdx]; exact h.1, fun j hj => ?_⟩
  simp only [List.getElem?_mapIdx, h.2 j hj]

theorem PeersEq.map {c : Nat} {pa pb : List PeerSt} (h : PeersEq c pa pb) (g : PeerSt → PeerSt) :
    PeersEq c (pa.map g) (pb.map g) := by
  refine ⟨by simp only [List.length_map]; exact h.1, fun j hj => ?_⟩
  simp only [List.getElem?_map, h.2 j hj]

theorem PeersEq.updateAt (c : Nat) (l : List PeerSt) (f : PeerSt → PeerSt) :
    PeersEq c (l.mapIdx fun i p => if i = c then f p else p) l := by
  refine ⟨List.length_mapIdx, fun j hj => ?_⟩
  simp only [List.getElem?_mapIdx, if_neg hj]
  cases l[j]? <;> rfl

namespace EqExceptAt

theorem mgr_eq {c : Nat} {a b : Node} (h : EqExceptAt c a b) : a.mgr = b.mgr := h.1
theorem nonce_eq {c : Nat} {a b : Node} (h : EqExceptAt c a b) : a.nonce = b.nonce := h.2.2.2.1
theorem peers {c : Nat} {a b : Node} (h : EqExceptAt c a b) : PeersEq c a.peers b.peers := h.2.2.2.2
theorem peer_eq {c : Nat} {a b : Node} (h : EqExceptAt c a b) {j : Nat} (hj : j ≠ c) : a.peers[j]? = b.peers[j]? :=
  h.2.2.2.2.2 j hj

theorem refl (c : Nat) (a : Node) : EqExceptAt c a a := ⟨rfl, rfl, rfl, rfl, rfl, fun _ _ => rfl⟩

theorem symm {c : Nat} {a b : Node} (h : EqExceptAt c a b) : EqExceptAt c b a :=
  ⟨h.1.symm, h.2.1.symm, h.2.2.1.symm, h.2.2.2.1.symm, h.2.2.2.2.1.symm, fun j hj => (h.2.2.2.2.2 j hj).symm⟩

theorem trans {c : Nat} {a b d : Node} (h1 : EqExceptAt c a b) (h2 : EqExceptAt c b d) : EqExceptAt c a d :=
  ⟨h1.1.trans h2.1, h1.2.1.trans h2.2.1, h1.2.2.1.trans h2.2.2.1, h1.2.2.2.1.trans h2.2.2.2.1,
   h1.2.2.2.2.1.trans h2.2.2.2.2.1, fun j hj => (h1.2.2.2.2.2 j hj).trans (h2.2.2.2.2.2 j hj)⟩

/-- mind the order: `ContainedAt n n' c` takes the node before, the node after, then the connection, and reads its equations
from after to before; `EqExceptAt c a b` takes the connection first and is symmetric -/
theorem contained {c : Nat} {n n' : Node} (h : EqExceptAt c n' n) : ContainedAt n n' c :=
  ⟨congrArg _ h.mgr_eq, congrArg _ h.mgr_eq, congrArg _ h.mgr_eq, h.2.1, h.2.2.1, h.peers⟩

theorem exists_peers {c : Nat} {a b : Node} (h : EqExceptAt c a b) :
    ∃ pb, PeersEq c a.peers pb ∧ b = { a with peers := pb } := by
  obtain ⟨m', w', dk', pb, nn'⟩ := b
  obtain ⟨h1, h2, h3, h4, hp⟩ := h
  subst h1 h2 h3 h4
  exact ⟨pb, hp, rfl⟩

/-! `send` and `disconnect` are `updatePeer`s, so the two lemmas on `updatePeer` serve them as well -/

theorem updatePeer_self (n : Node) (c : Nat) (f : PeerSt → PeerSt) : EqExceptAt c (n.updatePeer c f) n :=
  ⟨rfl, rfl, rfl, rfl, PeersEq.updateAt c n.peers f⟩

theorem updatePeer {c : Nat} {a b : Node} (h : EqExceptAt c a b) (d : Nat) (f : PeerSt → PeerSt) :
    EqExceptAt c (a.updatePeer d f) (b.updatePeer d f) :=
  ⟨h.mgr_eq, h.2.1, h.2.2.1, h.nonce_eq, h.peers.mapIdx _⟩

theorem disconnect {c : Nat} {a b : Node} (h : EqExceptAt c a b) (d : Nat) :
    EqExceptAt c (a.disconnect d) (b.disconnect d) := h.updatePeer d _

end EqExceptAt

namespace ContainedAt

theorem disconnect (n : Node) (c : Nat) : ContainedAt n (n.disconnect c) c :=
  (EqExceptAt.updatePeer_self n c _).contained

theorem then_updatePeer {n n' : Node} {c : Nat} (h : ContainedAt n n' c) (f : PeerSt → PeerSt) :
    ContainedAt n (n'.updatePeer c f) c :=
  ⟨h.1, h.2.1, h.2.2.1, h.2.2.2.1, h.2.2.2.2.1, (PeersEq.updateAt c n'.peers f).1.trans h.2.2.2.2.2.1,
    fun j hj => ((PeersEq.updateAt c n'.peers f).2 j hj).trans (h.2.2.2.2.2.2 j hj)⟩

end ContainedAt

theorem handleTxReceived_eqExcept (C : Crypto) (P : Params) (a b : Node) (c : Nat) (t : CTx) (h : EqExceptAt c a b) :
    EqExceptAt c (handleTxReceived C P a t).1 (handleTxReceived C P b t).1 ∧
    (handleTxReceived C P a t).2 = (handleTxReceived C P b t).2 := by
  obtain ⟨pb, hp, rfl⟩ := h.exists_peers
  -- the ends of `handleTxReceived`: already pooled; `addTxToPool` raises; admitted (the broadcast maps over the connections); refused
  unfold handleTxReceived
  simp only
  split
  · exact ⟨⟨rfl, rfl, rfl, rfl, hp⟩, rfl⟩
  · split
    · exact ⟨⟨rfl, rfl, rfl, rfl, hp⟩, rfl⟩
    · exact ⟨⟨rfl, rfl, rfl, rfl, PeersEq.map hp _⟩, rfl⟩
    · exact ⟨⟨rfl, rfl, rfl, rfl, hp⟩, rfl⟩

theorem handleBlockReceived_eqExcept (C : Crypto) (P : Params) (a b : Node) (c d r : Nat) (blk : Block) (now : Int)
    (h : EqExceptAt c a b) :
    EqExceptAt c (handleBlockReceived C P a d r blk now).1 (handleBlockReceived C P b d r blk now).1 ∧
    (handleBlockReceived C P a d r blk now).2 = (handleBlockReceived C P b d r blk now).2 := by
  rw [handleBlockReceived_eq, handleBlockReceived_eq, ← h.mgr_eq]
  -- the same verdict on both sides; what it does to the connections is a map over them
  generalize blockVerdict C P a.mgr.coinstate r blk now = v
  obtain ⟨pb, hp, rfl⟩ := h.exists_peers
  have hp₀ := PeersEq.mapIdx hp fun i p =>
    if i = d then { p with pendingInventory := p.pendingInventory.erase (blk.id C) } else p
  cases v with
  | accept changed relay =>
    cases relay
    · exact ⟨⟨rfl, rfl, rfl, rfl, hp₀⟩, rfl⟩
    · exact ⟨⟨rfl, rfl, rfl, rfl, hp₀.map _⟩, rfl⟩
  | _ => exact ⟨⟨rfl, rfl, rfl, rfl, hp₀⟩, rfl⟩

/-- stated for two nodes that agree on the record of connection `d`, on the manager and on the nonce, because the congruence
`handleMessage_eqExcept` needs "the same update and the same exception on both sides"; with `a = b` it says what one
message does to one node -/
theorem handleMessage_shape (C : Crypto) (P : Params) (a b : Node) (d i r : Nat) (m : InMsg) (now : Int)
    (hp : a.peers[d]? = b.peers[d]?) (hmgr : a.mgr = b.mgr) (hn : a.nonce = b.nonce) :
    (∃ f e, handleMessage C P a d i r m now = (a.updatePeer d f, e) ∧
      handleMessage C P b d i r m now = (b.updatePeer d f, e)) ∨
    (∃ blk, m = .dataBlock blk ∧ handleMessage C P a d i r m now = handleBlockReceived C P a d r blk now ∧
      handleMessage C P b d i r m now = handleBlockReceived C P b d r blk now) ∨
    (∃ t, m = .dataTx t ∧ handleMessage C P a d i r m now = handleTxReceived C P a t ∧
      handleMessage C P b d i r m now = handleTxReceived C P b t) := by
  -- every exit that is not a hand-over to a handler is an update of `d`'s record: `h₀` for a node left as it is (the
  -- identity update), `h₁` for one already written as an update
  have h₀ : ∀ e : Option Err, ∃ f e', (a, e) = (a.updatePeer d f, e') ∧ (b, e) = (b.updatePeer d f, e') :=
    fun e => ⟨fun p => p, e, by rw [Node.updatePeer_id], by rw [Node.updatePeer_id]⟩
  have h₁ : ∀ (f : PeerSt → PeerSt) (e : Option Err),
      ∃ f' e', (a.updatePeer d f, e) = (a.updatePeer d f', e') ∧ (b.updatePeer d f, e) = (b.updatePeer d f', e') :=
    fun f e => ⟨f, e, rfl, rfl⟩
  cases hpa : a.peers[d]? with
  | none =>
    rw [handleMessage_none C P hpa, handleMessage_none C P (hp ▸ hpa)]
    exact .inl (h₀ _)
  | some p =>
    have hpb : b.peers[d]? = some p := hp ▸ hpa
    have hhello : ∀ nonce port, ∃ f e, handleMessage C P a d i r (.hello nonce port) now = (a.updatePeer d f, e) ∧
        handleMessage C P b d i r (.hello nonce port) now = (b.updatePeer d f, e) := by
      intro nonce port
      rw [handleMessage_hello C P hpa, handleMessage_hello C P hpb, ← hn]
      split
      · simp only [Node.disconnect, Node.updatePeer_updatePeer]
        exact h₁ _ _
      · exact h₁ _ _
    cases hg : p.helloReceived with
    | false =>
      have hun : (∀ nonce port, m ≠ .hello nonce port) → ∃ f e, handleMessage C P a d i r m now = (a.updatePeer d f, e) ∧
          handleMessage C P b d i r m now = (b.updatePeer d f, e) := fun hm => by
        rw [handleMessage_ungreeted C P hpa hg i r hm, handleMessage_ungreeted C P hpb hg i r hm]
        exact h₀ _
      cases m with
      | hello nonce port => exact .inl (hhello nonce port)
      | _ => exact .inl (hun fun _ _ => nofun)
    | true =>
      rw [handleMessage_greeted C P hpa hg, handleMessage_greeted C P hpb hg, ← hmgr]
      cases m with
      | hello nonce port => exact .inl (hhello nonce port)
      | dataBlock blk => exact .inr (.inl ⟨blk, rfl, rfl, rfl⟩)
      | dataTx t => exact .inr (.inr ⟨t, rfl, rfl, rfl⟩)
      | getBlocks loc =>
        left
        simp only
        split
        · exact h₁ _ _
        · exact h₀ _
      | inventory ids =>
        left
        simp only
        split
        · exact h₀ _
        · split
          · exact h₁ _ _
          · rw [Node.foldl_send fun i => Out.getData i, Node.foldl_send fun i => Out.getData i]
            simp only [Node.send, Node.updatePeer_updatePeer]
            exact h₁ _ _
      | getData ty id =>
        left
        simp only
        split
        · exact h₀ _
        · split
          · exact h₀ _
          · exact h₁ _ _
      | dataHeader => exact .inl (h₀ _)
      | getPeers => exact .inl (h₁ _ _)
      | peers => exact .inl (h₁ _ _)

theorem handleMessage_cases (C : Crypto) (P : Params) (n : Node) (c i r : Nat) (m : InMsg) (now : Int) :
    EqExceptAt c (handleMessage C P n c i r m now).1 n ∨
    (∃ b, m = .dataBlock b ∧ handleMessage C P n c i r m now = handleBlockReceived C P n c r b now) ∨
    (∃ t m', m = .dataTx t ∧ addTxToPool C P n.mgr t = .ok (m', true) ∧
      handleMessage C P n c i r m now = (({ n with mgr := m' } : Node).broadcast (.tx t), none)) := by
  rcases handleMessage_shape C P n n c i r m now rfl rfl rfl with ⟨f, e, h, -⟩ | ⟨b, hb, h, -⟩ | ⟨t, ht, h, -⟩ <;> rw [h]
  · exact .inl (EqExceptAt.updatePeer_self n c f)
  · exact .inr (.inl ⟨b, hb, rfl⟩)
  · rcases handleTxReceived_cases C P n t with ⟨_, h'⟩ | ⟨_, _, h'⟩ | ⟨m', hm', h'⟩ <;> rw [h']
    · exact .inl (.refl c n)
    · exact .inl (.refl c n)
    · exact .inr (.inr ⟨t, m', ht, hm', rfl⟩)

theorem handleMessage_nonce (C : Crypto) (P : Params) (n : Node) (c i r : Nat) (m : InMsg) (now : Int) :
    (handleMessage C P n c i r m now).1.nonce = n.nonce := by
  rcases handleMessage_cases C P n c i r m now with h | ⟨b, -, h⟩ | ⟨t, m', -, -, h⟩
  · exact h.nonce_eq
  · rw [h]; exact handleBlockReceived_nonce C P n c r b now
  · rw [h]; rfl

theorem handleMessage_protocol_local (C : Crypto) (P : Params) (n : Node) (c i r : Nat) (m : InMsg)
    (now : Int) (hm : match m with | .dataBlock _ => False | .dataTx _ => False | _ => True) :
    EqExceptAt c (handleMessage C P n c i r m now).1 n := by
  rcases handleMessage_cases C P n c i r m now with h | ⟨_, rfl, -⟩ | ⟨_, _, rfl, -⟩
  · exact h
  · exact hm.elim
  · exact hm.elim

theorem handleMessage_err_local (C : Crypto) (P : Params) (n : Node) (c i r : Nat) (m : InMsg)
    (now : Int) (e : Err) (herr : (handleMessage C P n c i r m now).2 = some e) :
    EqExceptAt c (handleMessage C P n c i r m now).1 n := by
  rcases handleMessage_cases C P n c i r m now with h | ⟨b, -, h⟩ | ⟨_, _, -, -, h⟩
  · exact h
  · -- the only verdict that raises has changed nothing but the pending inventory of `c`
    rw [h, handleBlockReceived_eq] at herr ⊢
    rw [BlockVerdict.eq_raise_of_err herr]
    exact EqExceptAt.updatePeer_self n c _
  · rw [h] at herr
    cases herr

theorem handleMessage_rejected_tx_local (C : Crypto) (P : Params) (n : Node) (c i r : Nat) (t : CTx)
    (now : Int) (hrej : ∀ m', addTxToPool C P n.mgr t ≠ .ok (m', true)) :
    EqExceptAt c (handleMessage C P n c i r (.dataTx t) now).1 n := by
  rcases handleMessage_cases C P n c i r (.dataTx t) now with h | ⟨_, hb, _⟩ | ⟨t', m', ht, hm', _⟩
  · exact h
  · cases hb
  · cases ht
    exact absurd hm' (hrej m')

theorem handleMessage_eqExcept (C : Crypto) (P : Params) (a b : Node) (c d : Nat) (hd : d ≠ c) (i r : Nat) (m : InMsg)
    (now : Int) (h : EqExceptAt c a b) :
    EqExceptAt c (handleMessage C P a d i r m now).1 (handleMessage C P b d i r m now).1 ∧
    (handleMessage C P a d i r m now).2 = (handleMessage C P b d i r m now).2 := by
  rcases handleMessage_shape C P a b d i r m now (h.peer_eq hd) h.mgr_eq h.nonce_eq
    with ⟨f, e, ha, hb⟩ | ⟨blk, -, ha, hb⟩ | ⟨t, -, ha, hb⟩ <;> rw [ha, hb]
  · exact ⟨h.updatePeer d f, rfl⟩
  · exact handleBlockReceived_eqExcept C P a b c d r blk now h
  · exact handleTxReceived_eqExcept C P a b c t h

theorem handleEvent_msg (C : Crypto) (P : Params) (n : Node) (c i r : Nat) (m : InMsg) (now : Int) :
    handleEvent C P n c (.msg i r m) now =
      match (handleMessage C P n c i r m now).2 with
      | none => (handleMessage C P n c i r m now).1
      | some _ => (handleMessage C P n c i r m now).1.disconnect c := by
  unfold handleEvent
  simp only
  rcases handleMessage C P n c i r m now with ⟨n', _ | e⟩ <;> rfl

theorem handleEvent_ind (C : Crypto) (P : Params) {Q : Node → Prop} (n : Node) (c : Nat) (ev : Incoming) (now : Int)
    (hdis : ∀ n', Q n' → Q (n'.disconnect c)) (h₀ : Q n)
    (hmsg : ∀ i r m, ev = .msg i r m → Q (handleMessage C P n c i r m now).1) : Q (handleEvent C P n c ev now) := by
  cases ev with
  | msg i r m =>
    rw [handleEvent_msg]
    have := hmsg i r m rfl
    cases (handleMessage C P n c i r m now).2 with
    | none => exact this
    | some e => exact hdis _ this
  | undecodable => exact hdis n h₀
  | badFrame => exact hdis n h₀
  | closed => exact hdis n h₀

/-- `Q` survives an event on connection `c` if it does not depend on the record of connection `c` (`hloc`), survives a block handed
to `handleBlockReceived` (`hblock`) and a transaction admitted to the pool (`htx`): every other event changes the node at
connection `c` only -/
theorem handleEvent_inv (C : Crypto) (P : Params) {Q : Node → Prop} (n : Node) (c : Nat) (ev : Incoming) (now : Int)
    (hloc : ∀ {a b}, EqExceptAt c a b → Q b → Q a)
    (hblock : ∀ r b, Q (handleBlockReceived C P n c r b now).1)
    (htx : ∀ t m', addTxToPool C P n.mgr t = .ok (m', true) → Q (({ n with mgr := m' } : Node).broadcast (.tx t)))
    (h : Q n) : Q (handleEvent C P n c ev now) := by
  refine handleEvent_ind C P n c ev now (fun n' => hloc (EqExceptAt.updatePeer_self n' c _)) h fun i r m _ => ?_
  rcases handleMessage_cases C P n c i r m now with hs | ⟨b, -, hb⟩ | ⟨t, m', -, hm', ht⟩
  · exact hloc hs h
  · rw [hb]; exact hblock r b
  · rw [ht]; exact htx t m' hm'

theorem handleEvent_nonce (C : Crypto) (P : Params) (n : Node) (c : Nat) (ev : Incoming) (now : Int) :
    (handleEvent C P n c ev now).nonce = n.nonce :=
  handleEvent_inv C P (Q := fun n' => n'.nonce = n.nonce) n c ev now (fun h hb => h.nonce_eq.trans hb)
    (fun r b => handleBlockReceived_nonce C P n c r b now) (fun _ _ _ => rfl) rfl

theorem handleEvent_local (C : Crypto) (P : Params) (n : Node) (c : Nat) (ev : Incoming) (now : Int)
    (h : ∀ i r m, ev = .msg i r m → EqExceptAt c (handleMessage C P n c i r m now).1 n) :
    EqExceptAt c (handleEvent C P n c ev now) n :=
  handleEvent_ind C P (Q := fun n' => EqExceptAt c n' n) n c ev now (fun _ h' => (EqExceptAt.updatePeer_self _ c _).trans h')
    (.refl c n) h

theorem handleEvent_msg_local (C : Crypto) (P : Params) (n : Node) (c i r : Nat) (m : InMsg) (now : Int)
    (h : EqExceptAt c (handleMessage C P n c i r m now).1 n) : EqExceptAt c (handleEvent C P n c (.msg i r m) now) n :=
  handleEvent_local C P n c _ now fun _ _ _ he => by cases he; exact h

/-! The node's run over a history of events: `Props/C20Stream`, `Props/C09Stored` and `Props/C13Node` state their results over it. -/

namespace C20

variable (C : Crypto) (P : Params)

/-- one event: connection, what arrived, clock -/
abbrev Ev := Nat × Incoming × Int

/-- the event loop over a history of events -/
def run (n : Node) (tr : List Ev) : Node := tr.foldl (fun n e => handleEvent C P n e.1 e.2.1 e.2.2) n

theorem run_ind {Q : Node → Prop} (hstep : ∀ n c ev now, Q n → Q (handleEvent C P n c ev now)) (n : Node) (tr : List Ev)
    (h : Q n) : Q (run C P n tr) := by
  induction tr generalizing n with
  | nil => exact h
  | cons e rest ih => exact ih _ (hstep n e.1 e.2.1 e.2.2 h)

end C20

end Model
