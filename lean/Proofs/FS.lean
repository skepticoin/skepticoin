import Model.Wallet
import Proofs.Map

/-! The small file-system model (`FS`, `FsOp`, `saveOps`) of `Model.Wallet`: `read` / `write` are `Map.get?` / `set`, and a
save replaces the file atomically (`saveOps_atomic`). -/

namespace Model

/-- the operation writes to the file `n` and to nothing else -/
def FsOp.WritesTo (n : String) : FsOp → Prop
  | .openTrunc m => m = n
  | .append m _ => m = n
  | .rename _ _ => False

namespace FS

@[simp] theorem read_nil (m : String) : FS.read ([] : FS) m = none := rfl

theorem read_eq_get? (fs : FS) (m : String) : fs.read m = Map.get? fs m :=
  (Map.get?_eq_find? fs m).symm

-- `fs.write n c` unfolds to `Map.set fs n c`, so the `Map` lemmas apply to it as it stands
theorem read_write_self (fs : FS) (n : String) (c : Bytes) : (fs.write n c).read n = some c :=
  (read_eq_get? _ _).trans (Map.get?_set_self fs n c)

theorem read_write_other (fs : FS) (n m : String) (c : Bytes) (h : m ≠ n) :
    (fs.write n c).read m = fs.read m := by
  rw [read_eq_get?, read_eq_get?]
  exact Map.get?_set_other fs n c m (Ne.symm h)

theorem read_rename_dst (fs : FS) (s d : String) (c : Bytes) (h : fs.read s = some c) :
    (fs.apply (.rename s d)).read d = some c := by
  simp only [FS.apply, h]
  exact read_write_self _ _ _

theorem read_append_self (fs : FS) (n : String) (acc c : Bytes) (h : fs.read n = some acc) :
    (fs.apply (.append n c)).read n = some (acc ++ c) := by
  simp only [FS.apply, h, Option.getD_some]
  exact read_write_self _ _ _

theorem read_foldl_of_writesTo (n m : String) (hm : m ≠ n) (ops : List FsOp) (fs : FS)
    (h : ∀ op ∈ ops, op.WritesTo n) : (ops.foldl FS.apply fs).read m = fs.read m := by
  induction ops generalizing fs with
  | nil => rfl
  | cons op rest ih =>
    rw [List.foldl_cons, ih _ fun o ho => h o (List.mem_cons_of_mem _ ho)]
    have := h op List.mem_cons_self
    cases op with
    | openTrunc _ => cases this; exact read_write_other _ _ _ _ hm
    | append _ _ => cases this; exact read_write_other _ _ _ _ hm
    | rename _ _ => cases this

theorem read_foldl_appends (n : String) (cs : List Bytes) (fs : FS) (acc : Bytes) (h : fs.read n = some acc) :
    ((cs.map (FsOp.append n)).foldl FS.apply fs).read n = some (acc ++ cs.flatten) := by
  induction cs generalizing fs acc with
  | nil => simp [h]
  | cons c rest ih =>
    rw [List.map_cons, List.foldl_cons, ih _ _ (read_append_self fs n acc c h), List.flatten_cons, List.append_assoc]

end FS

theorem append_new_ne (final : String) : final ++ ".new" ≠ final := by
  intro h
  have h1 := congrArg String.length h
  rw [String.length_append] at h1
  have h2 : (".new" : String).length = 4 := by decide
  omega

/-- the file is replaced atomically with respect to process crashes: after every prefix of the
operations of a save the file holds either the complete previous or the complete new content,
and the new one at the end -/
theorem saveOps_atomic (fs : FS) (final : String) (chunks : List Bytes) (n : Nat) :
    let fs' := ((saveOps final chunks).take n).foldl FS.apply fs
    (fs'.read final = fs.read final ∨ fs'.read final = some chunks.flatten) ∧
    (n ≥ (saveOps final chunks).length → fs'.read final = some chunks.flatten) := by
  intro fs'
  -- everything before the rename writes to the temporary file only
  have hops : saveOps final chunks =
      (FsOp.openTrunc (final ++ ".new") :: chunks.map (FsOp.append (final ++ ".new"))) ++
        [FsOp.rename (final ++ ".new") final] := rfl
  have hpre : ∀ op ∈ FsOp.openTrunc (final ++ ".new") :: chunks.map (FsOp.append (final ++ ".new")),
      op.WritesTo (final ++ ".new") := by
    intro op hop
    rcases List.mem_cons.1 hop with rfl | hop
    · rfl
    · obtain ⟨c, _, rfl⟩ := List.mem_map.1 hop; rfl
  have hlen : (saveOps final chunks).length = chunks.length + 2 := by simp [saveOps]
  by_cases hn : n ≤ chunks.length + 1
  · have : fs'.read final = fs.read final := by
      show (((saveOps final chunks).take n).foldl FS.apply fs).read final = _
      rw [hops, List.take_append_of_le_length (by simpa using hn)]
      exact FS.read_foldl_of_writesTo _ _ (append_new_ne final).symm _ _ fun op hop => hpre op (List.mem_of_mem_take hop)
    exact ⟨.inl this, fun h => by omega⟩
  · have : fs'.read final = some chunks.flatten := by
      show (((saveOps final chunks).take n).foldl FS.apply fs).read final = _
      rw [List.take_of_length_le (by omega), hops, List.foldl_append, List.foldl_cons, List.foldl_cons, List.foldl_nil]
      exact FS.read_rename_dst _ _ _ _
        (FS.read_foldl_appends _ chunks _ [] (FS.read_write_self _ _ _))
    exact ⟨.inr this, fun _ => this⟩

end Model

