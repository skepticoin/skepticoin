import Model.Node
import Proofs.Built
import Proofs.Sync

/-!
The requester's follow-up loop `walk` against one server state: the inventory reply from the result of the scan,
the shape of the active chain (`ActiveChain`) and that every state built from a well-formed arrival
history has it (`built`), the server's scan over a locator built from another well-formed state.
Declared in `C10Walk`, the namespace of `Props/C10Walk.lean`, whose statements these serve.
-/

namespace C10Walk
open Model

variable (C : Crypto) (P : Params)

-- `walk` itself is defined in Model/Node.lean (so that the driver runs it)

/-- `index` is the by-height index of the head `hd` of `cs`, it holds a block at exactly the heights
`0 … hd.height`, each stored under its id with that height, each linked to the one below -/
structure ActiveChain (cs : CoinState) (index : Map Nat Block) (hd : Block) : Prop where
  cur : cs.current.bind cs.byHeightAt.get? = some index
  head : cs.head = some hd
  full : ∀ h, h ≤ hd.height → ∃ blk, index.get? h = some blk
  top : ∀ h, hd.height < h → index.get? h = none
  stored : ∀ h blk, index.get? h = some blk → cs.blocks.get? (blk.id C) = some blk ∧ blk.height = h
  link : ∀ h blk nxt, index.get? h = some blk → index.get? (h + 1) = some nxt → nxt.prev = blk.id C

theorem ActiveChain.le_of_some {cs : CoinState} {index : Map Nat Block} {hd : Block}
    (W : ActiveChain C cs index hd) {h : Nat} {blk : Block} (hg : index.get? h = some blk) :
    h ≤ hd.height := by
  refine Nat.le_of_not_lt fun hlt => ?_
  rw [W.top h hlt] at hg
  cases hg

/-- what a state built from a well-formed history offers: an active chain all of whose blocks are
blocks of the history, a store that holds exactly the history, and the first block of the history at
height 0 of the active chain -/
structure Built (bs : List Block) (s : CoinState) (index : Map Nat Block) (hd : Block) : Prop where
  chain : ActiveChain C s index hd
  mem : ∀ h blk, index.get? h = some blk → blk ∈ bs
  storeInv : ∀ e y, s.blocks.get? e = some y → y ∈ bs ∧ y.id C = e
  gen : index.get? 0 = bs.head?

theorem built_exists {bs : List Block} {s : CoinState} (hwf : WFArrivals C bs)
    (hf : foldBlocks C .empty bs = .ok s) : ∃ index hd, Built C bs s index hd := by
  have I := hist C hwf hf
  have F := hwf.facts C
  obtain ⟨m, hm, hcur, hhd, -⟩ := I.head F
  -- the index of the head is the head's chain, read by height
  obtain ⟨idx, hidx, hget⟩ := I.index m hm
  have K := chainOf_facts C hwf m hm
  refine ⟨idx, m, ⟨?_, hhd, ?_, ?_, ?_, ?_⟩, ?_, fun _ _ => I.of_stored, by rw [hget, K.first]⟩
  · rw [hcur, Option.bind_some, hidx]
  · intro h hh
    rw [hget]
    exact ⟨_, List.getElem?_eq_getElem (by rw [K.length]; omega)⟩
  · intro h hh
    rw [hget]
    exact List.getElem?_eq_none (by rw [K.length]; omega)
  · intro h blk hg
    rw [hget] at hg
    exact ⟨I.stored F (K.mem _ (List.mem_of_getElem? hg)), K.height h blk hg⟩
  · intro h blk nxt h1 h2
    rw [hget] at h1 h2
    exact K.link h blk nxt h1 h2
  · intro h blk hg
    rw [hget] at hg
    exact K.mem _ (List.mem_of_getElem? hg)

theorem built {bs : List Block} {s : CoinState} {index : Map Nat Block} {hd : Block} (hwf : WFArrivals C bs)
    (hf : foldBlocks C .empty bs = .ok s)
    (hidx : s.current.bind s.byHeightAt.get? = some index) (hhd : s.head = some hd) :
    Built C bs s index hd := by
  obtain ⟨index', hd', B⟩ := built_exists C hwf hf
  obtain rfl : index' = index := Option.some.inj (B.chain.cur.symm.trans hidx)
  obtain rfl : hd' = hd := Option.some.inj (B.chain.head.symm.trans hhd)
  exact B

/-- the id of the block the index holds at height `h` (the empty string if there is none) -/
def idAt (index : Map Nat Block) (h : Nat) : Bytes := ((index.get? h).map (·.id C)).getD []

/-- the ids the index holds at the heights `a ≤ h < b` -/
def chainIds (index : Map Nat Block) (a b : Nat) : List Bytes :=
  (List.range' a (b - a)).map (idAt C index)

theorem idAt_of_some {index : Map Nat Block} {h : Nat} {blk : Block} (hg : index.get? h = some blk) :
    idAt C index h = blk.id C := by
  simp [idAt, hg]

theorem chainIds_length (index : Map Nat Block) (a b : Nat) :
    (chainIds C index a b).length = b - a := by
  simp [chainIds]

theorem chainIds_getElem (index : Map Nat Block) (a b k : Nat)
    (hk : k < (chainIds C index a b).length) :
    (chainIds C index a b)[k] = idAt C index (a + k) := by
  simp [chainIds]

theorem chainIds_of_le (index : Map Nat Block) {a b : Nat} (h : b ≤ a) : chainIds C index a b = [] := by
  rw [chainIds, Nat.sub_eq_zero_of_le h]
  rfl

theorem chainIds_append (index : Map Nat Block) {a b c : Nat} (h1 : a ≤ b) (h2 : b ≤ c) :
    chainIds C index a b ++ chainIds C index b c = chainIds C index a c := by
  obtain ⟨m, rfl⟩ := Nat.exists_eq_add_of_le h1
  obtain ⟨n, rfl⟩ := Nat.exists_eq_add_of_le h2
  unfold chainIds
  rw [← List.map_append, Nat.add_sub_cancel_left, Nat.add_sub_cancel_left, Nat.add_assoc, Nat.add_sub_cancel_left,
    List.range'_append_1]

theorem chainIds_succ (index : Map Nat Block) {a b : Nat} (h : a ≤ b) :
    chainIds C index a (b + 1) = chainIds C index a b ++ [idAt C index b] := by
  rw [← chainIds_append C index h (Nat.le_succ b)]
  simp [chainIds]

theorem mem_chainIds (index : Map Nat Block) (a b h : Nat) (h1 : a ≤ h) (h2 : h < b) :
    idAt C index h ∈ chainIds C index a b := by
  unfold chainIds
  rw [List.mem_map]
  exact ⟨h, by rw [List.mem_range'_1]; omega, rfl⟩

theorem ActiveChain.chainIds_spec {cs : CoinState} {index : Map Nat Block} {hd : Block}
    (W : ActiveChain C cs index hd) (a : Nat) {b : Nat} (hb : b ≤ hd.height + 1) :
    (chainIds C index a b).length = b - a ∧
      ∀ k (hk : k < (chainIds C index a b).length),
        ∃ blk, index.get? (a + k) = some blk ∧ (chainIds C index a b)[k] = blk.id C := by
  refine ⟨chainIds_length .., fun k hk => ?_⟩
  rw [chainIds_length] at hk
  obtain ⟨blk, hg⟩ := W.full (a + k) (by omega)
  exact ⟨blk, hg, by rw [chainIds_getElem, idAt_of_some C hg]⟩

theorem reply_of_scan_none {cs : CoinState} {index : Map Nat Block} {hd : Block}
    (W : ActiveChain C cs index hd) {loc : List Bytes} (hs : inventoryReply.scan cs index loc = none) :
    inventoryReply C P cs loc = .ok [] := by
  unfold inventoryReply
  simp only [W.cur, W.head, hs]

theorem reply_of_scan_start {cs : CoinState} {index : Map Nat Block} {hd : Block}
    (W : ActiveChain C cs index hd) {loc : List Bytes} {start : Nat}
    (hs : inventoryReply.scan cs index loc = some (some start)) :
    inventoryReply C P cs loc =
      .ok (chainIds C index start (min (start + P.inventorySize) (hd.height + 1))) := by
  unfold inventoryReply
  simp only [W.cur, W.head, hs]
  unfold chainIds
  apply mapM_except_eq_ok
  intro h hh
  rw [List.mem_range'_1] at hh
  obtain ⟨blk, hg⟩ := W.full h (by omega)
  rw [hg, idAt_of_some C hg]

theorem scan_single_below {cs : CoinState} {index : Map Nat Block} {hd : Block}
    (W : ActiveChain C cs index hd) {k : Nat} {x : Block} (hx : index.get? k = some x) (hk : k < hd.height) :
    inventoryReply.scan cs index [x.id C] = some (some (k + 1)) := by
  obtain ⟨hst, hh⟩ := W.stored k x hx
  obtain ⟨nxt, hn⟩ := W.full (k + 1) hk
  simp only [inventoryReply.scan_cons, hst, hh, hn, W.link k x nxt hx hn, ↓reduceIte]

theorem scan_single_head {cs : CoinState} {index : Map Nat Block} {hd : Block}
    (W : ActiveChain C cs index hd) {k : Nat} {x : Block} (hx : index.get? k = some x) (hk : hd.height ≤ k) :
    inventoryReply.scan cs index [x.id C] = none := by
  obtain ⟨hst, hh⟩ := W.stored k x hx
  simp only [inventoryReply.scan_cons, hst, hh, W.top (k + 1) (by omega)]

theorem reply_single {cs : CoinState} {index : Map Nat Block} {hd : Block}
    (W : ActiveChain C cs index hd) {k : Nat} {x : Block} (hx : index.get? k = some x) :
    inventoryReply C P cs [x.id C] =
      .ok (chainIds C index (k + 1) (min (k + 1 + P.inventorySize) (hd.height + 1))) := by
  by_cases hk : k < hd.height
  · exact reply_of_scan_start C P W (scan_single_below C W hx hk)
  · rw [chainIds_of_le C index (by omega)]
    exact reply_of_scan_none C P W (scan_single_head C W hx (Nat.le_of_not_lt hk))

/-- a batch from `a ≤ hd.height` is not empty: it ends with the id of the index's block `x` at some height `k`, and the
follow-up `[x.id]` is answered with the batch from `k + 1` -/
theorem ActiveChain.next_batch {cs : CoinState} {index : Map Nat Block} {hd : Block}
    (W : ActiveChain C cs index hd) (hinv : 0 < P.inventorySize) {a : Nat} (ha : a ≤ hd.height) :
    ∃ (k : Nat) (x : Block), a ≤ k ∧ k ≤ hd.height ∧ min (a + P.inventorySize) (hd.height + 1) = k + 1 ∧
      (chainIds C index a (k + 1)).getLast? = some (x.id C) ∧
      inventoryReply C P cs [x.id C] =
        .ok (chainIds C index (k + 1) (min (k + 1 + P.inventorySize) (hd.height + 1))) := by
  obtain ⟨k, hb, hak, hk⟩ : ∃ k, min (a + P.inventorySize) (hd.height + 1) = k + 1 ∧ a ≤ k ∧ k ≤ hd.height :=
    ⟨min (a + P.inventorySize) (hd.height + 1) - 1, by omega⟩
  obtain ⟨x, hx⟩ := W.full k hk
  exact ⟨k, x, hak, hk, hb, by rw [chainIds_succ C index hak, List.getLast?_concat, idAt_of_some C hx], reply_single C P W hx⟩

theorem walk_zero (cs : CoinState) (loc : List Bytes) : walk C P cs 0 loc = .ok [] := rfl

theorem walk_succ_empty {cs : CoinState} (fuel : Nat) {loc : List Bytes}
    (h : inventoryReply C P cs loc = .ok []) : walk C P cs (fuel + 1) loc = .ok [] := by
  simp only [walk, h, List.getLast?_nil]

theorem walk_succ_cons {cs : CoinState} {fuel : Nat} {loc ids rest : List Bytes} {last : Bytes}
    (h : inventoryReply C P cs loc = .ok ids) (hl : ids.getLast? = some last)
    (hr : walk C P cs fuel [last] = .ok rest) : walk C P cs (fuel + 1) loc = .ok (ids ++ rest) := by
  simp only [walk, h, hl, hr]

theorem walk_of_scan_none {cs : CoinState} {index : Map Nat Block} {hd : Block}
    (W : ActiveChain C cs index hd) (fuel : Nat) {loc : List Bytes} (hs : inventoryReply.scan cs index loc = none) :
    walk C P cs fuel loc = .ok [] := by
  cases fuel with
  | zero => rfl
  | succ fuel => exact walk_succ_empty C P fuel (reply_of_scan_none C P W hs)

/-- every round lists the next batch, and `next_batch` says where the follow-up starts -/
theorem walk_of_reply {cs : CoinState} {index : Map Nat Block} {hd : Block}
    (W : ActiveChain C cs index hd) (hinv : 0 < P.inventorySize) : ∀ (fuel a : Nat) (loc : List Bytes),
    inventoryReply C P cs loc = .ok (chainIds C index a (min (a + P.inventorySize) (hd.height + 1))) →
    hd.height + 1 ≤ a + fuel →
    walk C P cs fuel loc = .ok (chainIds C index a (hd.height + 1)) := by
  intro fuel
  induction fuel with
  | zero =>
    intro a loc _ hf
    rw [chainIds_of_le C index (Nat.add_zero a ▸ hf)]
    rfl
  | succ fuel ih =>
    intro a loc hr hf
    by_cases ha : hd.height < a
    · rw [chainIds_of_le C index (by omega)] at hr ⊢
      exact walk_succ_empty C P fuel hr
    · obtain ⟨k, x, hak, hk, hb, hl, hn⟩ := W.next_batch C P hinv (Nat.le_of_not_lt ha)
      rw [hb] at hr
      rw [walk_succ_cons C P hr hl (ih (k + 1) _ hn (by omega)),
        chainIds_append C index (Nat.le_succ_of_le hak) (Nat.succ_le_succ hk)]

theorem walk_of_scan_start {cs : CoinState} {index : Map Nat Block} {hd : Block}
    (W : ActiveChain C cs index hd) (hinv : 0 < P.inventorySize) (fuel start : Nat) (loc : List Bytes)
    (hs : inventoryReply.scan cs index loc = some (some start)) (hf : hd.height + 1 ≤ start + fuel) :
    walk C P cs fuel loc = .ok (chainIds C index start (hd.height + 1)) :=
  walk_of_reply C P W hinv fuel start loc (reply_of_scan_start C P W hs) hf

/-- server and requester hold blocks of the same id at height `j` -/
def Agree (index rindex : Map Nat Block) (j : Nat) : Prop :=
  ∃ a b, index.get? j = some a ∧ rindex.get? j = some b ∧ a.id C = b.id C

section TwoStates
variable {ss rs : List Block} {srv req : CoinState} {index rindex : Map Nat Block} {hd rhd : Block}

theorem agree_down (Bs : Built C ss srv index hd) (Br : Built C rs req rindex rhd)
    (hcompat : ∀ a ∈ rs, ∀ b ∈ ss, a.id C = b.id C → a.prev = b.prev ∧ a.height = b.height)
    {i j : Nat} (hij : i ≤ j) (h : Agree C index rindex j) : Agree C index rindex i := by
  induction hij with
  | refl => exact h
  | @step k _ ih =>
    obtain ⟨a, b, ha, hb, hab⟩ := h
    refine ih ?_
    obtain ⟨a', ha'⟩ := Bs.chain.full k (by have := Bs.chain.le_of_some C ha; omega)
    obtain ⟨b', hb'⟩ := Br.chain.full k (by have := Br.chain.le_of_some C hb; omega)
    obtain ⟨hp, -⟩ := hcompat b (Br.mem _ b hb) a (Bs.mem _ a ha) hab.symm
    exact ⟨a', b', ha', hb', by rw [← Bs.chain.link k a' a ha' ha, ← Br.chain.link k b' b hb' hb, hp]⟩

theorem scan_locator (Bs : Built C ss srv index hd) (Br : Built C rs req rindex rhd) (hgen : rs.head? = ss.head?)
    (loc : List Bytes)
    (hloc : ∀ e ∈ loc, ∀ y, srv.blocks.get? e = some y → ∃ b, rindex.get? y.height = some b ∧ b.id C = e) :
    (∃ start, 1 ≤ start ∧ inventoryReply.scan srv index loc = some (some start) ∧ Agree C index rindex (start - 1)) ∨
    (inventoryReply.scan srv index loc = none ∧ hd.height ≤ rhd.height) := by
  -- the ends of `scan`: 1 the locator is used up; 2 the server does not know `e`; it stores `y` under `e` and has 3 nothing
  -- above `y`, 4 `nxt` with parent `e`, 5 a block with another parent; 2 and 5 go on with the rest
  fun_induction inventoryReply.scan srv index loc with
  | case1 =>
    obtain ⟨a, ha⟩ := Bs.chain.full 0 (Nat.zero_le _)
    exact .inl ⟨1, Nat.le_refl _, rfl, a, a, ha, by rw [Br.gen, hgen, ← Bs.gen]; exact ha, rfl⟩
  | case2 _ _ _ ih | case5 _ _ _ _ _ _ _ _ ih => exact ih fun x hx => hloc x (List.mem_cons_of_mem _ hx)
  | case3 e _ y hget _ hn =>
    obtain ⟨b, hb, -⟩ := hloc e List.mem_cons_self y hget
    refine .inr ⟨rfl, Nat.le_of_not_lt fun hlt => ?_⟩
    obtain ⟨n, hn'⟩ := Bs.chain.full (y.height + 1) (by have := Br.chain.le_of_some C hb; omega)
    rw [hn] at hn'
    cases hn'
  | case4 _ y _ nxt hn hget =>
    obtain ⟨b, hb, hbe⟩ := hloc _ List.mem_cons_self y hget
    obtain ⟨a, ha⟩ := Bs.chain.full y.height (by have := Bs.chain.le_of_some C hn; omega)
    exact .inl ⟨y.height + 1, by omega, rfl, a, b, ha, hb, by rw [← Bs.chain.link _ a nxt ha hn, hbe]⟩

theorem locator_built_ok (Br : Built C rs req rindex rhd) :
    locator C req = .ok ((recentHeights rhd.height).map (idAt C rindex)) := by
  unfold locator
  simp only [Br.chain.cur, Br.chain.head]
  apply mapM_except_eq_ok
  intro h hh
  obtain ⟨blk, hg⟩ := Br.chain.full h (recentHeights_le _ h hh)
  rw [hg, idAt_of_some C hg]

theorem scan_own_locator (Bs : Built C ss srv index hd) (Br : Built C rs req rindex rhd)
    (hcompat : ∀ a ∈ rs, ∀ b ∈ ss, a.id C = b.id C → a.prev = b.prev ∧ a.height = b.height)
    (hgen : rs.head? = ss.head?) (loc : List Bytes) (hloc : locator C req = .ok loc) :
    (∃ start, 1 ≤ start ∧ inventoryReply.scan srv index loc = some (some start) ∧
      ∀ j, j < start → Agree C index rindex j) ∨
    (inventoryReply.scan srv index loc = none ∧ hd.height ≤ rhd.height) := by
  obtain rfl := Except.ok.inj (hloc.symm.trans (locator_built_ok C Br))
  -- an entry is the id of the requester's `b` at a locator height `k`; what the server stores under it has `b`'s height
  have hent : ∀ e ∈ (recentHeights rhd.height).map (idAt C rindex), ∀ y, srv.blocks.get? e = some y →
      ∃ b, rindex.get? y.height = some b ∧ b.id C = e := by
    intro e he y hget
    obtain ⟨k, hk, rfl⟩ := List.mem_map.1 he
    obtain ⟨b, hb⟩ := Br.chain.full k (recentHeights_le _ k hk)
    rw [idAt_of_some C hb] at hget ⊢
    obtain ⟨hy, hyid⟩ := Bs.storeInv _ y hget
    obtain ⟨-, hyh⟩ := hcompat b (Br.mem k b hb) y hy hyid.symm
    exact ⟨b, by rw [← hyh, (Br.chain.stored k b hb).2]; exact hb, rfl⟩
  rcases scan_locator C Bs Br hgen _ hent with ⟨start, h1, hs, hag⟩ | h
  · exact .inl ⟨start, h1, hs, fun j hj => agree_down C Bs Br hcompat (by omega) hag⟩
  · exact .inr h

end TwoStates

end C10Walk
