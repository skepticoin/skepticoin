/-! The scan of `create_spend_transaction`: go through a list, adding up values, and stop at the first element with
which the running total reaches the target. The model's `takeUntil` (over references, `Proofs/Spend.lean`) and
the translated loops (`Props/GenTie/SpendPlanRule.lean`) are both this function; what it returns is said here once. -/

namespace Model

variable {α : Type} (val : α → Nat)

/-- the shortest non-empty prefix of the list whose total, added to `acc`, reaches `target` -/
def reach (target : Nat) : List α → Nat → Option (List α)
  | [], _ => none
  | a :: rest, acc =>
    if acc + val a ≥ target then some [a] else (reach target rest (acc + val a)).map (a :: ·)

theorem reach_append (target : Nat) (l1 l2 : List α) (acc : Nat) :
    reach val target (l1 ++ l2) acc =
      (reach val target l1 acc).or ((reach val target l2 (acc + (l1.map val).sum)).map (l1 ++ ·)) := by
  -- the ends of `reach`, here and below: 1 the list is empty, 2 `a` reaches the target, 3 it does not and the scan goes on
  fun_induction reach val target l1 acc with
  | case1 acc => simp
  | case2 a rest acc h => simp [reach, h]
  | case3 a rest acc h ih =>
    simp only [List.cons_append, reach, h, ↓reduceIte, ih]
    cases reach val target rest (acc + val a) with
    | some p => simp
    | none =>
      simp only [Option.map_none, List.map_cons, List.sum_cons, Nat.add_assoc]
      cases reach val target l2 (acc + (val a + (rest.map val).sum)) <;> simp

theorem reach_some {val : α → Nat} {target : Nat} {l : List α} {acc : Nat} {pre : List α}
    (h : reach val target l acc = some pre) :
      pre ≠ [] ∧ pre <+: l ∧ target ≤ acc + (pre.map val).sum ∧
      ∀ pre' : List α, pre' ≠ [] → pre' <+: l → target ≤ acc + (pre'.map val).sum → pre.length ≤ pre'.length := by
  fun_induction reach val target l acc generalizing pre with
  | case1 => cases h
  | case2 a rest acc hge =>
    cases h
    refine ⟨by simp, ⟨rest, rfl⟩, by simpa using hge, fun pre' hne _ _ => ?_⟩
    cases pre' with
    | nil => exact absurd rfl hne
    | cons b q => simp
  | case3 a rest acc hge ih =>
    obtain ⟨p, hr, rfl⟩ := Option.map_eq_some_iff.1 h
    obtain ⟨_, hpre, hreach, hshort⟩ := ih hr
    refine ⟨by simp, List.cons_prefix_cons.2 ⟨rfl, hpre⟩, ?_, fun pre' hne hpre' hreach' => ?_⟩
    · simp only [List.map_cons, List.sum_cons]; omega
    · cases pre' with
      | nil => exact absurd rfl hne
      | cons b q =>
        obtain ⟨rfl, hq⟩ := List.cons_prefix_cons.1 hpre'
        simp only [List.map_cons, List.sum_cons] at hreach'
        cases q with
        | nil => simp only [List.map_nil, List.sum_nil] at hreach'; omega
        | cons c q' => exact Nat.succ_le_succ (hshort (c :: q') (by simp) hq (by omega))

theorem reach_eq_none_iff_lt (target : Nat) (l : List α) (acc : Nat) (h : acc < target) :
    (reach val target l acc = none ↔ acc + (l.map val).sum < target) := by
  fun_induction reach val target l acc with
  | case1 acc => simp [h]
  | case2 a rest acc hge => simp only [reduceCtorEq, false_iff, List.map_cons, List.sum_cons]; omega
  | case3 a rest acc hge ih =>
    rw [Option.map_eq_none_iff, ih (by omega), List.map_cons, List.sum_cons, Nat.add_assoc]

theorem reach_none (target : Nat) (l : List α) (acc : Nat) (h : reach val target l acc = none)
    (pre : List α) (hne : pre ≠ []) (hpre : pre <+: l) : acc + (pre.map val).sum < target := by
  obtain ⟨post, rfl⟩ := hpre
  cases pre with
  | nil => exact absurd rfl hne
  | cons a q =>
    have hacc : acc < target := by
      simp only [List.cons_append, reach] at h
      split at h
      · cases h
      · omega
    have := (reach_eq_none_iff_lt val target _ acc hacc).1 h
    simp only [List.map_append, List.sum_append] at this
    omega

end Model
