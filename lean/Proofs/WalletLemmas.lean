import Model.Wallet
-- for Mathlib in the import closure of `Props/C15`, not for a lemma: see the header of `Proofs/Vlq.lean`
import Proofs.Vlq

/-! For the wallet model: facts about lists of pairs filtered by key, the hex and wallet-file round trips (`Wallet.load_dump`),
and the `handOut` / `restore` equations. -/

namespace Model

theorem mapM_map_some {α β : Type} (f : α → β) (g : β → Option α) (hg : ∀ a, g (f a) = some a) (l : List α) :
    (l.map f).mapM g = some l := by
  induction l with
  | nil => simp
  | cons a rest ih => simp [List.mapM_cons, hg, ih]

theorem mem_map_fst_filter_ne {α β : Type} [DecidableEq α] (l : List (α × β)) (pk k : α) :
    k ∈ (l.filter (·.1 ≠ pk)).map (·.1) ↔ k ∈ l.map (·.1) ∧ k ≠ pk := by
  simp only [List.mem_map, List.mem_filter, decide_eq_true_eq]
  exact ⟨fun ⟨x, ⟨hm, hp⟩, e⟩ => ⟨⟨x, hm, e⟩, e ▸ hp⟩, fun ⟨⟨x, hm, e⟩, hp⟩ => ⟨x, ⟨hm, e ▸ hp⟩, e⟩⟩

theorem filter_fst_ne_eq_self {α β : Type} [DecidableEq α] (l : List (α × β)) (pk : α) (h : pk ∉ l.map (·.1)) :
    l.filter (·.1 ≠ pk) = l :=
  List.filter_eq_self.2 fun _ ha => decide_eq_true fun e => h (e ▸ List.mem_map_of_mem ha)

theorem hexVal_hexDigit (n : Nat) (h : n < 16) : hexVal (hexDigit n) = some n :=
  (by decide : ∀ n : Fin 16, hexVal (hexDigit n) = some n.val) ⟨n, h⟩

theorem ofHexChars_toHex (bs : Bytes) : ofHexChars (toHex bs).toList = some bs := by
  unfold toHex
  rw [String.toList_ofList]
  induction bs with
  | nil => rfl
  | cons b rest ih =>
    have hb := b.toNat_lt
    have h1 : hexVal (hexDigit (b.toNat / 16)) = some (b.toNat / 16) := hexVal_hexDigit _ (by omega)
    have h2 : hexVal (hexDigit (b.toNat % 16)) = some (b.toNat % 16) := hexVal_hexDigit _ (by omega)
    have h3 : b.toNat / 16 * 16 + b.toNat % 16 = b.toNat := by omega
    simp only [List.flatMap_cons, List.cons_append, List.nil_append, ofHexChars, h1, h2, ih, h3,
      UInt8.ofNat_toNat, Option.bind_eq_bind, Option.bind_some, Option.pure_def]

theorem Wallet.load_dump (w : Wallet) : Wallet.load w.dump = some { w with spent := [] } := by
  unfold Wallet.load Wallet.dump
  rw [mapM_map_some (fun (p : Bytes × Bytes) => (toHex p.1, toHex p.2)) _ (by intro a; simp [ofHexChars_toHex]),
    mapM_map_some toHex _ (by intro a; simp [ofHexChars_toHex]),
    mapM_map_some (fun (p : Bytes × String) => (toHex p.1, p.2)) _ (by intro a; simp [ofHexChars_toHex])]
  rfl

theorem Wallet.handOut_of_unused (w : Wallet) (a : String) (c : Nat) (hne : w.unused ≠ []) :
    ∃ ys pk, w.unused = ys ++ [pk] ∧
      w.handOut a c = some ({ w with unused := ys,
                                     annotations := w.annotations.filter (·.1 ≠ pk) ++ [(pk, a)] }, pk) := by
  unfold Wallet.handOut
  cases hl : w.unused.getLast? with
  | none => exact absurd (List.getLast?_eq_none_iff.mp hl) hne
  | some pk =>
    obtain ⟨ys, hys⟩ := List.getLast?_eq_some_iff.mp hl
    exact ⟨ys, pk, hys, by rw [hys, List.dropLast_concat]⟩

theorem Wallet.handOut_of_no_unused {w w' : Wallet} {a : String} {c : Nat} {pk : Bytes}
    (he : w.unused = []) (ho : w.handOut a c = some (w', pk)) : w' = w := by
  unfold Wallet.handOut at ho
  simp only [he, List.getLast?_nil] at ho
  split at ho
  · cases ho; rfl
  · cases ho

theorem Wallet.restore_eq_some (w w' : Wallet) (pk : Bytes) :
    w.restore pk = some w' ↔ pk ∈ w.annotations.map (·.1) ∧
      w' = { w with annotations := w.annotations.filter (·.1 ≠ pk), unused := w.unused ++ [pk] } := by
  unfold Wallet.restore
  split
  · next h =>
    have : pk ∈ w.annotations.map (·.1) := by
      simpa only [List.any_eq_true, decide_eq_true_eq, List.mem_map] using h
    exact ⟨fun e => ⟨this, (Option.some.inj e).symm⟩, fun e => by rw [e.2]⟩
  · next h =>
    refine ⟨fun e => (nomatch e), fun e => absurd ?_ h⟩
    simpa only [List.any_eq_true, decide_eq_true_eq, List.mem_map] using e.1

end Model
