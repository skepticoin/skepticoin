import Model.Node
import Proofs.Validation
import Proofs.Chain

/-!
The miner's two handlers: what `minerCandidate` returns, and one equation per exit of `minerFound` once the evidence is there; all
four exits in `minerFound_cases`.
-/

namespace Model

/-- the coinbase `construct_coinbase_transaction` builds: one thin-air input carrying the height, one output of subsidy + fees to
`pk` -/
def rewardTx (P : Params) (height : Nat) (fees : Int) (pk : Bytes) : CTx :=
  CTx.fresh ⟨[⟨thinAir, .coinbase height []⟩], [⟨((subsidy P height : Int) + fees).toNat, pk⟩]⟩

theorem minerCandidate_ok (C : Crypto) (P : Params) (m : ChainMgr) (pk : Bytes) (clock nonce : Nat)
    (s : Summary) (h : Nat) (txs : List CTx)
    (hc : minerCandidate C P m pk clock nonce = .ok (s, h, txs)) :
    ∃ hd cur u fees root target,
      m.coinstate.current = some cur ∧ m.coinstate.blocks.get? cur = some hd ∧
      m.coinstate.utxoAt.get? cur = some u ∧ blockFees u m.pool = .ok fees ∧
      calcMerkleRoot C (rewardTx P (hd.height + 1) fees pk :: m.pool) = some root ∧
      calcTarget C P m.coinstate (hd.height + 1) (max clock (hd.timestamp + 1)) hd = .ok target ∧
      s = ⟨hd.height + 1, cur, root, max clock (hd.timestamp + 1), target, nonce⟩ ∧
      h = hd.height + 1 ∧ txs = rewardTx P (hd.height + 1) fees pk :: m.pool := by
  revert hc
  -- the ends of `minerCandidate`: 1 no head, 2 the head `hd`, and then of `constructEvidenceInput`: 1 the head's unspent set is
  -- missing, 2 it is `u`, 3 no head or no current id
  fun_cases minerCandidate C P m pk clock nonce with
  | case1 => nofun
  | case2 hd hhd =>
    fun_cases constructEvidenceInput C P m.coinstate m.pool pk (max clock (hd.timestamp + 1)) [] nonce with
    | case1 | case3 => nofun
    | case2 _ cur hcur hhd' u hu =>
      cases hhd.symm.trans hhd'
      intro hc
      rw [bind_ok_iff] at hc
      obtain ⟨cb, hcb, hc⟩ := hc
      unfold constructCoinbase at hcb
      rw [bind_ok_iff] at hcb
      obtain ⟨fees, hfees, hcb⟩ := hcb
      simp only [pure, Except.pure, Except.ok.injEq] at hcb
      subst hcb
      dsimp only at hc
      split at hc
      · cases hc
      · rename_i root hroot
        rw [bind_ok_iff] at hc
        obtain ⟨target, htarget, hc⟩ := hc
        simp only [pure, Except.pure, Except.ok.injEq, Prod.mk.injEq] at hc
        obtain ⟨h1, h2, h3⟩ := hc
        exact ⟨hd, cur, u, fees, root, target, hcur, CoinState.head_of_current hcur ▸ hhd, hu, hfees, hroot, htarget,
          h1.symm, h2.symm, h3.symm⟩

/-- the last arm of `minerFound`, the node after its own block was accepted with state `cs'`: `cs'` served and recorded as validated,
`b` broadcast (`Node.broadcast`), buffered, flushed -/
def adoptFound (C : Crypto) (n : Node) (cs' : CoinState) (b : Block) : Node :=
  let n₂ := ({ n with mgr := setCoinstate C n.mgr cs' true } : Node).broadcast (.block b 0)
  Node.flush C { n₂ with wbuf := n₂.wbuf ++ [b] }

theorem minerFound_unsolved {C : Crypto} {P : Params} {cs : CoinState} {s : Summary} {h : Nat} {txs : List CTx}
    {sh : Bytes} {now : Int} {ev : Evidence} (n : Node) (hev : evidenceAfterScrypt C P cs sh s h txs = .ok ev)
    (hsol : bytesLt ((Block.fresh ⟨s, ev⟩ txs).id C) (Block.fresh ⟨s, ev⟩ txs).target = false) :
    minerFound C P n cs s h txs sh now = ((n, none), none) := by
  simp only [minerFound, hev, hsol, Bool.not_false, ↓reduceIte]

theorem minerFound_ok {C : Crypto} {P : Params} {cs cs' : CoinState} {s : Summary} {h : Nat} {txs : List CTx}
    {sh : Bytes} {now : Int} {ev : Evidence} (n : Node) (hev : evidenceAfterScrypt C P cs sh s h txs = .ok ev)
    (hsol : bytesLt ((Block.fresh ⟨s, ev⟩ txs).id C) (Block.fresh ⟨s, ev⟩ txs).target = true)
    (hadd : addBlock C P cs (Block.fresh ⟨s, ev⟩ txs) now = .ok cs') :
    minerFound C P n cs s h txs sh now =
      ((adoptFound C n cs' (Block.fresh ⟨s, ev⟩ txs), none), some (Block.fresh ⟨s, ev⟩ txs)) := by
  simp only [minerFound, hev, hsol, hadd, Bool.not_true, Bool.false_eq_true, ↓reduceIte, adoptFound]

theorem minerFound_refused {C : Crypto} {P : Params} {cs : CoinState} {s : Summary} {h : Nat} {txs : List CTx}
    {sh : Bytes} {now : Int} {ev : Evidence} (n : Node) (hev : evidenceAfterScrypt C P cs sh s h txs = .ok ev)
    (hsol : bytesLt ((Block.fresh ⟨s, ev⟩ txs).id C) (Block.fresh ⟨s, ev⟩ txs).target = true)
    (hadd : ∀ cs', addBlock C P cs (Block.fresh ⟨s, ev⟩ txs) now ≠ .ok cs') :
    ∃ e, minerFound C P n cs s h txs sh now = ((n, some e), some (Block.fresh ⟨s, ev⟩ txs)) := by
  simp only [minerFound, hev, hsol, Bool.not_true, Bool.false_eq_true, ↓reduceIte]
  cases ha : addBlock C P cs (Block.fresh ⟨s, ev⟩ txs) now with
  | error e => exact ⟨e, rfl⟩
  | ok cs' => exact absurd ha (hadd cs')

theorem minerFound_cases (C : Crypto) (P : Params) (n : Node) (cs : CoinState) (s : Summary) (height : Nat)
    (txs : List CTx) (summaryHash : Bytes) (now : Int) :
    (∃ e ob, minerFound C P n cs s height txs summaryHash now = ((n, some e), ob)) ∨
    minerFound C P n cs s height txs summaryHash now = ((n, none), none) ∨
    ∃ b cs', addBlock C P cs b now = .ok cs' ∧
      minerFound C P n cs s height txs summaryHash now = ((adoptFound C n cs' b, none), some b) := by
  -- the ends of `minerFound`: 1 no evidence, 2 not a solution, 3 refused by the node's own validation, 4 adopted
  -- (3 and 4 bind the evidence, its equation, the block `b`, that it is a solution, then what `addBlock` returned)
  fun_cases minerFound C P n cs s height txs summaryHash now with
  | case1 e => exact .inl ⟨e, none, rfl⟩
  | case2 => exact .inr (.inl rfl)
  | case3 _ _ b _ e => exact .inl ⟨e, b, rfl⟩
  | case4 _ _ b _ cs' hadd => exact .inr (.inr ⟨b, cs', hadd, rfl⟩)

end Model
