import Proofs.Walk

/-!
Catching up with a server, one block of its active chain at a time (`Inv`, `Inv.next`), and one round at a time
(`wanted`, `Adds`, `Inv.run`: the blocks chosen by the state at the beginning of the round can be added in order).
Declared in `C10Converge`, the namespace of `Props/C10Converge.lean`, whose statements these serve.
-/

namespace C10Converge
open Model

variable (C : Crypto)

/-- the requester's chain state `s` is built from the well-formed history `ds`, which has no id collision with the server's
history `ss` and contains every block of the server's active chain below height `k` -/
structure Inv (ss : List Block) (index : Map Nat Block) (s : CoinState) (ds : List Block) (k : Nat) : Prop where
  wf : WFArrivals C ds
  fold : foldBlocks C .empty ds = .ok s
  same : ∀ a ∈ ds, ∀ b ∈ ss, a.id C = b.id C → a = b
  below : ∀ j a, j < k → index.get? j = some a → a ∈ ds

variable {C} {ss : List Block} {srv : CoinState} {index : Map Nat Block} {hd : Block}

theorem Inv.mono {s : CoinState} {ds : List Block} {k k' : Nat} (I : Inv C ss index s ds k) (h : k' ≤ k) :
    Inv C ss index s ds k' :=
  ⟨I.wf, I.fold, I.same, fun j a hj ha => I.below j a (by omega) ha⟩

theorem Inv.mem_iff {s : CoinState} {ds : List Block} {k : Nat} (I : Inv C ss index s ds k)
    {a : Block} (has : a ∈ ss) : a ∈ ds ↔ s.blocks.contains (a.id C) = true := by
  have H := hist C I.wf I.fold
  rw [Map.contains_eq_true_iff]
  constructor
  · exact fun h => ⟨a, H.stored (I.wf.facts C) h⟩
  · rintro ⟨y, hy⟩
    obtain ⟨hyd, hyid⟩ := H.of_stored hy
    exact I.same y hyd a has hyid ▸ hyd

theorem Inv.head_ge (Bs : C10Walk.Built C ss srv index hd) {s : CoinState} {ds : List Block}
    (I : Inv C ss index s ds (hd.height + 1)) : ∃ hd', s.head = some hd' ∧ hd.height ≤ hd'.height := by
  obtain ⟨m, -, -, hm, hge⟩ := (hist C I.wf I.fold).head (I.wf.facts C)
  obtain ⟨a, ha⟩ := Bs.chain.full hd.height (Nat.le_refl _)
  have := hge a (I.below _ a (Nat.lt_succ_self _) ha)
  exact ⟨m, hm, (Bs.chain.stored _ a ha).2 ▸ this⟩

theorem Inv.next (Bs : C10Walk.Built C ss srv index hd) (hwfs : WFArrivals C ss)
    (hfs : foldBlocks C .empty ss = .ok srv) {s : CoinState} {ds : List Block} {k : Nat}
    (I : Inv C ss index s ds k) {a : Block} (ha : index.get? k = some a) (hk0 : k = 0 → a ∈ ds) :
    (a ∈ ds ∧ Inv C ss index s ds (k + 1)) ∨
    (a ∉ ds ∧ s.blocks.contains a.prev = true ∧
      ∃ s', addBlockNoValidation C s a = .ok s' ∧ Inv C ss index s' (ds ++ [a]) (k + 1)) := by
  have below' : ∀ ds' : List Block, (∀ x ∈ ds, x ∈ ds') → a ∈ ds' → ∀ j x, j < k + 1 → index.get? j = some x → x ∈ ds' := by
    intro ds' hsub had j x hj hx
    by_cases hjk : j = k
    · rw [hjk, ha] at hx
      cases hx
      exact had
    · exact hsub x (I.below j x (by omega) hx)
  by_cases had : a ∈ ds
  · exact .inl ⟨had, I.wf, I.fold, I.same, below' ds (fun _ h => h) had⟩
  refine .inr ⟨had, ?_⟩
  rw [and_comm]  -- the new state first: that the parent is stored comes last, from `I.mem_iff`
  have Fd := I.wf.facts C
  have Fs := hwfs.facts C
  have H := hist C I.wf I.fold
  have has : a ∈ ss := Bs.mem k a ha
  obtain ⟨j, rfl⟩ : ∃ j, k = j + 1 := ⟨k - 1, by have := mt hk0 had; omega⟩
  have hk := Bs.chain.le_of_some C ha
  obtain ⟨p, hp⟩ := Bs.chain.full j (by omega)
  have hps : p ∈ ss := Bs.mem j p hp
  have hpd : p ∈ ds := I.below j p (by omega) hp
  have hprev : a.prev = p.id C := Bs.chain.link j p a hp ha
  have hz : a.prev ≠ zeros 32 := by rw [hprev]; exact Fs.nz p hps
  -- the unspent set of the parent is the same map on both sides
  obtain ⟨u, -, hru⟩ := (hist C hwfs hfs).utxo a has
  obtain ⟨up, hup, hrp⟩ := H.utxo p hpd
  rw [chainOf_step C Fs hps hprev, replayUtxo_snoc,
    ← chainOf_same_len C Fd Fs I.same hpd hps, hrp] at hru
  obtain ⟨idx, hidx, -⟩ := H.index p hpd
  obtain ⟨m, hm, hcur, -, -⟩ := H.head Fd
  have hcur' := headWith_stored C a hcur (H.stored Fd hm)
  obtain ⟨s', hs'⟩ := add_ok_of C hz (hprev ▸ hup) hru (hprev ▸ hidx) hcur'
  have hfresh : ∀ c ∈ ds, c.id C ≠ a.id C := fun c hc e => had (I.same c hc a has e ▸ hc)
  refine ⟨⟨s', hs', ?_, ?_, ?_, below' _ (fun _ h => List.mem_append_left _ h)
    (List.mem_append_right _ (List.mem_singleton.2 rfl))⟩, ?_⟩
  · exact .snoc ds a p I.wf hpd hprev
      (by rw [(Bs.chain.stored _ a ha).2, (Bs.chain.stored _ p hp).2]) (Fs.nz a has) hfresh
  · exact foldBlocks_append_ok C I.fold (by rw [foldBlocks_single]; exact hs')
  · rw [List.forall_mem_append, List.forall_mem_singleton]
    exact ⟨I.same, Fs.inj a has⟩
  · rw [hprev]
    exact (I.mem_iff hps).1 hpd

/-- the blocks the index holds at the heights `a ≤ h < b` that `s₀` does not store, lowest first: what a requester in state
`s₀` asks for when it is offered those heights -/
def wanted (C : Crypto) (s₀ : CoinState) (index : Map Nat Block) (a b : Nat) : List Block :=
  ((List.range' a (b - a)).filterMap index.get?).filter fun x => !s₀.blocks.contains (x.id C)

theorem wanted_succ {s₀ : CoinState} {a b : Nat} {x : Block} (hab : a ≤ b) (hx : index.get? b = some x) :
    wanted C s₀ index a (b + 1) =
      wanted C s₀ index a b ++ if s₀.blocks.contains (x.id C) = true then [] else [x] := by
  unfold wanted
  rw [Nat.succ_sub hab, List.range'_1_concat, Nat.add_sub_cancel' hab, List.filterMap_append, List.filter_append]
  congr 1
  by_cases hc : s₀.blocks.contains (x.id C) = true <;> simp [hx, hc]

theorem mem_wanted {s₀ : CoinState} {a b : Nat} {x : Block} (h : x ∈ wanted C s₀ index a b) :
    s₀.blocks.contains (x.id C) = false ∧ ∃ k, k < b ∧ index.get? k = some x := by
  obtain ⟨h1, h2⟩ := List.mem_filter.1 h
  obtain ⟨k, hk, hg⟩ := List.mem_filterMap.1 h1
  rw [List.mem_range'_1] at hk
  exact ⟨by simpa using h2, k, by omega, hg⟩

/-- `l` is added to `s` block by block, each new and with its parent stored when its turn comes: the additions that both
`foldBlocks` and the block handler perform -/
inductive Adds (C : Crypto) (s : CoinState) : List Block → CoinState → Prop where
  | nil : Adds C s [] s
  | snoc {s₁ s₂ : CoinState} {l : List Block} {a : Block} : Adds C s l s₁ →
      s₁.blocks.contains (a.id C) = false → s₁.blocks.contains a.prev = true →
      addBlockNoValidation C s₁ a = .ok s₂ → Adds C s (l ++ [a]) s₂

theorem Adds.fold {s s' : CoinState} {l : List Block} (A : Adds C s l s') : foldBlocks C s l = .ok s' := by
  induction A with
  | nil => rfl
  | snoc _ _ _ hadd ih => exact foldBlocks_append_ok C ih (by rw [foldBlocks_single]; exact hadd)

/-- one round: the requests are chosen by the state `s₀` it begins in; what it asks for at the heights `a ≤ h < b` can be
added in that order, and then the history holds the server's active chain below `b` -/
theorem Inv.run (Bs : C10Walk.Built C ss srv index hd) (hwfs : WFArrivals C ss)
    (hfs : foldBlocks C .empty ss = .ok srv) {s₀ : CoinState} {ds₀ : List Block} {a : Nat}
    (I₀ : Inv C ss index s₀ ds₀ a) (h0 : ∀ x, index.get? 0 = some x → x ∈ ds₀) {b : Nat} (hab : a ≤ b) :
    b ≤ hd.height + 1 →
    ∃ s, Adds C s₀ (wanted C s₀ index a b) s ∧ Inv C ss index s (ds₀ ++ wanted C s₀ index a b) b := by
  induction hab with
  | refl =>
    rw [wanted, Nat.sub_self]
    exact fun _ => ⟨s₀, .nil, (List.append_nil ds₀).symm ▸ I₀⟩
  | @step k hk ih =>
    intro hb
    obtain ⟨s, A, I⟩ := ih (by omega)
    obtain ⟨x, hx⟩ := Bs.chain.full k (by omega)
    have hxs : x ∈ ss := Bs.mem k x hx
    -- what the round has added lies below `k`, so `x` is in the history iff it was when the round began
    have key : x ∈ ds₀ ++ wanted C s₀ index a k ↔ s₀.blocks.contains (x.id C) = true := by
      rw [List.mem_append, I₀.mem_iff hxs, or_iff_left_iff_imp]
      intro hw
      obtain ⟨-, j, hj, hg⟩ := mem_wanted hw
      have := (Bs.chain.stored j x hg).2.symm.trans (Bs.chain.stored k x hx).2
      omega
    rw [wanted_succ hk hx]
    rcases I.next Bs hwfs hfs hx (fun h => List.mem_append_left _ (h0 x (h ▸ hx))) with ⟨hin, I'⟩ | ⟨hin, hpar, s', hadd, I'⟩
    · rw [if_pos (key.1 hin), List.append_nil]
      exact ⟨s, A, I'⟩
    · rw [if_neg (mt key.2 hin), ← List.append_assoc]
      exact ⟨s', A.snoc (Bool.eq_false_iff.2 (mt (I.mem_iff hxs).2 hin)) hpar hadd, I'⟩

end C10Converge
