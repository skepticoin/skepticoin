import Model.Framing

/-! Lemmas about the frame parser: appending data commutes with what has already been parsed. -/

namespace Model

variable (magic : Bytes) (maxSize : Nat) (bad : Bytes → Bool)

/-- the state after `self.buffer += d`, the first statement of `receive` -/
def app (st : RState) (d : Bytes) : RState := { st with buffer := st.buffer ++ d }

theorem app_nil (st : RState) : app st [] = st := by simp [app]

theorem app_app (st : RState) (a b : Bytes) : app (app st a) b = app st (a ++ b) := by simp [app]

/-- reachable states: a length is only ever read after the magic -/
def RState.Inv (st : RState) : Prop := st.len.isSome = true → st.magicRead = true

/-- two results agree on what is observable: payloads, error, and the state when no error -/
def RResult.Same (r r' : RResult) : Prop :=
  r.payloads = r'.payloads ∧ r.err = r'.err ∧ (r.err = none → r.st = r'.st)

theorem RResult.Same.refl (r : RResult) : r.Same r := ⟨rfl, rfl, fun _ => rfl⟩

theorem RResult.Same.trans {a b c : RResult} (h₁ : a.Same b) (h₂ : b.Same c) : a.Same c :=
  ⟨h₁.1.trans h₂.1, h₁.2.1.trans h₂.2.1, fun h => (h₁.2.2 h).trans (h₂.2.2 (h₁.2.1 ▸ h))⟩

theorem RResult.Same.symm {a b : RResult} (h : a.Same b) : b.Same a :=
  ⟨h.1.symm, h.2.1.symm, fun hb => (h.2.2 (h.2.1 ▸ hb)).symm⟩

theorem recv_eq (st : RState) :
    recv magic maxSize bad st =
      match settle magic maxSize st with
      | .error e => ⟨st, [], some e⟩
      | .ok s₂ =>
        match s₂.len with
        | none => ⟨s₂, [], none⟩
        | some n =>
          if n ≤ s₂.buffer.length then
            if bad (s₂.buffer.take n) then ⟨s₂, [], some .handler⟩
            else
              let r := recv magic maxSize bad ⟨s₂.buffer.drop n, false, none⟩
              ⟨r.st, s₂.buffer.take n :: r.payloads, r.err⟩
          else ⟨s₂, [], none⟩ := by
  rw [recv]
  split <;> rename_i h <;> simp only [h]
  split <;> rename_i h' <;> simp only [h']
  rfl

theorem recv_err {st : RState} {e : FErr} (h : settle magic maxSize st = .error e) :
    recv magic maxSize bad st = ⟨st, [], some e⟩ := by
  rw [recv_eq, h]

theorem recv_congr {a b : RState} (h : settle magic maxSize a = settle magic maxSize b) :
    (recv magic maxSize bad a).Same (recv magic maxSize bad b) := by
  rw [recv_eq, recv_eq, h]
  cases settle magic maxSize b
  · exact ⟨rfl, rfl, nofun⟩
  · exact .refl _

theorem settle_inv {st s₂ : RState} (hinv : st.Inv) (h : settle magic maxSize st = .ok s₂) :
    s₂.Inv := by
  obtain ⟨s₁, hm, hl⟩ := settle_ok.mp h
  obtain ⟨_, e₁, hmr, hpost⟩ := phaseM_ok hm
  obtain ⟨_, e₂, hsome⟩ := phaseL_ok hl
  intro hs
  rw [e₂]
  -- the length was there before, hence so was the magic; or the length phase fired on four bytes
  exact (hsome hs).elim (fun h' => hmr (hinv (e₁ ▸ h'))) fun h' => hpost.resolve_right (by omega)

theorem settle_idle {st : RState} (hm : st.magicRead = true) (hl : st.len.isSome = true) :
    settle magic maxSize st = .ok st := by
  rw [settle_eq_bind, phaseM_idle magic (.inl hm)]
  exact phaseL_idle maxSize (.inl hl)

theorem recv_inv (st : RState) (hinv : st.Inv) : (recv magic maxSize bad st).st.Inv := by
  -- the cases of `recv`: 1 `settle` fails; 2 no length yet; 3 the handler raises; 4 a frame is handed over and parsing
  -- goes on; 5 the frame is incomplete
  fun_induction recv magic maxSize bad st with
  | case4 _ _ _ _ _ _ _ _ _ ih => exact ih nofun  -- parsing goes on from a state without a length: `Inv` asks nothing of it
  | case1 => exact hinv
  | _ _ _ hs => exact settle_inv magic maxSize hinv hs

theorem phaseM_app (st : RState) (d : Bytes) :
    phaseM magic (app st d) = (phaseM magic st).bind fun s => phaseM magic (app s d) := by
  by_cases h : st.magicRead = true ∨ st.buffer.length < 4
  · rw [phaseM_idle magic h]; rfl
  · have hl : 4 ≤ st.buffer.length := by omega
    have hm : st.magicRead = false := by simpa using fun hm => h (.inl hm)
    rw [phaseM_fire magic hm hl, phaseM_fire magic (st := app st d) hm (by simp [app]; omega)]
    simp only [app, List.take_append_of_le_length hl, List.drop_append_of_le_length hl]
    split
    · exact (phaseM_idle magic (.inl rfl)).symm
    · rfl

theorem phaseL_app (st : RState) (d : Bytes) :
    phaseL maxSize (app st d) = (phaseL maxSize st).bind fun s => phaseL maxSize (app s d) := by
  by_cases h : st.len.isSome = true ∨ st.buffer.length < 4
  · rw [phaseL_idle maxSize h]; rfl
  · have hl : 4 ≤ st.buffer.length := by omega
    have hn : st.len = none := by simpa using fun hn => h (.inl hn)
    rw [phaseL_fire maxSize hn hl, phaseL_fire maxSize (st := app st d) hn (by simp [app]; omega)]
    simp only [app, List.take_append_of_le_length hl, List.drop_append_of_le_length hl]
    split
    · rfl
    · exact (phaseL_idle maxSize (.inl rfl)).symm

theorem settle_app (st : RState) (d : Bytes) :
    settle magic maxSize (app st d) =
      (settle magic maxSize st).bind fun s => settle magic maxSize (app s d) := by
  simp only [settle_eq_bind]
  rw [phaseM_app]
  cases hm : phaseM magic st with
  | error e => rfl
  | ok s₁ =>
    show (phaseM magic (app s₁ d)).bind (phaseL maxSize) =
      (phaseL maxSize s₁).bind fun s => (phaseM magic (app s d)).bind (phaseL maxSize)
    rcases (phaseM_ok hm).2.2.2 with h | h
    · -- the magic has been read: only the length phase is left, before and after
      rw [phaseM_idle magic (st := app s₁ d) (.inl h)]
      show phaseL maxSize (app s₁ d) = _
      rw [phaseL_app]
      cases hl : phaseL maxSize s₁ with
      | error e => rfl
      | ok s₂ =>
        show _ = (phaseM magic (app s₂ d)).bind (phaseL maxSize)
        rw [phaseM_idle magic (st := app s₂ d) (.inl ((phaseL_ok hl).2.1 ▸ h))]; rfl
    · -- fewer than four bytes: the length phase was idle
      rw [phaseL_idle maxSize (.inr h)]; rfl

/-- Go on from where `r` stopped, unless it stopped with an error: the shape of `feedAll`, and of a
delivery inside `recv`. -/
def RResult.andThen (r : RResult) (k : RState → RResult) : RResult :=
  match r.err with
  | some e => ⟨r.st, r.payloads, some e⟩
  | none => ⟨(k r.st).st, r.payloads ++ (k r.st).payloads, (k r.st).err⟩

theorem RResult.Same.andThen {r : RResult} {k k' : RState → RResult}
    (h : r.err = none → (k r.st).Same (k' r.st)) : (r.andThen k).Same (r.andThen k') := by
  obtain ⟨s, p, _ | e⟩ := r
  · obtain ⟨h₁, h₂, h₃⟩ := h rfl
    exact ⟨congrArg (p ++ ·) h₁, h₂, h₃⟩
  · exact .refl _

theorem feedAll_cons (st : RState) (c : Bytes) (cs : List Bytes) :
    feedAll magic maxSize bad st (c :: cs) =
      (feed magic maxSize bad st c).andThen fun s => feedAll magic maxSize bad s cs := rfl

theorem RResult.cons_andThen (r : RResult) (p : Bytes) (k : RState → RResult) :
    (⟨r.st, p :: r.payloads, r.err⟩ : RResult).andThen k =
      ⟨(r.andThen k).st, p :: (r.andThen k).payloads, (r.andThen k).err⟩ := by
  obtain ⟨s, ps, _ | e⟩ := r <;> rfl

theorem recv_app_frame {st s₂ : RState} {n : Nat} (d : Bytes) (hinv : st.Inv)
    (hs : settle magic maxSize st = .ok s₂) (hl : s₂.len = some n) (hn : n ≤ s₂.buffer.length) :
    recv magic maxSize bad (app st d) =
      if bad (s₂.buffer.take n) then ⟨app s₂ d, [], some .handler⟩
      else
        let r := recv magic maxSize bad (app ⟨s₂.buffer.drop n, false, none⟩ d)
        ⟨r.st, s₂.buffer.take n :: r.payloads, r.err⟩ := by
  have hsome : s₂.len.isSome = true := by rw [hl]; rfl
  have hs' : settle magic maxSize (app st d) = .ok (app s₂ d) := by
    rw [settle_app, hs]
    exact settle_idle magic maxSize (st := app s₂ d)
      (settle_inv magic maxSize (s₂ := s₂) hinv hs hsome) hsome
  rw [recv_eq, hs']
  simp only [app, hl]
  rw [if_pos (by simp; omega), List.take_append_of_le_length hn, List.drop_append_of_le_length hn]

theorem recv_app (st : RState) (d : Bytes) (hinv : st.Inv) :
    (recv magic maxSize bad (app st d)).Same
      ((recv magic maxSize bad st).andThen fun s => recv magic maxSize bad (app s d)) := by
  -- cases numbered as in `recv_inv`. In 2 and 5 `recv st` is the literal `⟨s₂, [], none⟩`, so `(recv st).andThen k`
  -- reduces to `k s₂ = recv (app s₂ d)`, and `settle (app st d) = settle (app s₂ d)` is all that is left
  fun_induction recv magic maxSize bad st with
  | case1 st e hs =>
    rw [recv_err magic maxSize bad (by rw [settle_app, hs]; rfl)]
    exact ⟨rfl, rfl, nofun⟩
  | case2 st s₂ hs hl => exact recv_congr magic maxSize bad (by rw [settle_app, hs]; rfl)
  | case5 st s₂ hs n hl hn => exact recv_congr magic maxSize bad (by rw [settle_app, hs]; rfl)
  | case3 st s₂ hs n hl hn payload hb =>
    rw [recv_app_frame magic maxSize bad d hinv hs hl hn, if_pos hb]
    exact ⟨rfl, rfl, nofun⟩
  | case4 st s₂ hs n hl hn payload hb r ih =>
    rw [recv_app_frame magic maxSize bad d hinv hs hl hn, if_neg hb, RResult.cons_andThen]
    have ih := ih nofun  -- the state after the frame has no length
    exact ⟨congrArg (payload :: ·) ih.1, ih.2.1, ih.2.2⟩

end Model
