import Proofs.Chain

/-!
The per-key balances computed by `pkbSpend` / `pkbCredit` track the unspent set maintained by
`removeInputs` / `addOutputs`.
-/

namespace Model

namespace C03

/-- the value a key holds in an unspent set -/
def utxoValue (u : Utxo) (pk : Bytes) : Int :=
  ((u.filter (fun e => e.2.pk = pk)).map (fun e => (e.2.value : Int))).sum

/-- the references paying a key in an unspent set -/
def utxoRefs (u : Utxo) (pk : Bytes) : List OutRef := (u.filter (fun e => e.2.pk = pk)).map (·.1)

end C03

namespace Bal
open C03 (utxoValue utxoRefs)

theorem utxoValue_cons (k : OutRef) (o : Output) (u : Utxo) (pk : Bytes) :
    utxoValue ((k, o) :: u) pk = if o.pk = pk then (o.value : Int) + utxoValue u pk else utxoValue u pk := by
  unfold utxoValue
  by_cases h : o.pk = pk <;> simp [h]

theorem utxoRefs_cons (k : OutRef) (o : Output) (u : Utxo) (pk : Bytes) :
    utxoRefs ((k, o) :: u) pk = if o.pk = pk then k :: utxoRefs u pk else utxoRefs u pk := by
  unfold utxoRefs
  by_cases h : o.pk = pk <;> simp [h]

theorem utxoRefs_erase (u : Utxo) (r : OutRef) (pk : Bytes) :
    utxoRefs (u.erase r) pk = (utxoRefs u pk).filter (fun x => x ≠ r) := by
  rw [utxoRefs, utxoRefs, Map.erase, List.filter_map, List.filter_filter, List.filter_filter]
  simp only [Function.comp_def, Bool.and_comm]

/-- `u` is the running unspent set while a block is applied, `p` the running balances, `u₀` the
unspent set the block started from, where `pkbSpend` looks spent outputs up. A key without an entry
in `p` holds nothing, which is how `pkbCredit` reads it. -/
structure Tracks (u₀ u : Utxo) (p : PKBalances) : Prop where
  nodup : u.keys.Nodup
  agrees : ∀ pk, ((p.get? pk).getD ⟨0, []⟩).value = utxoValue u pk ∧
    ((p.get? pk).getD ⟨0, []⟩).refs.Perm (utxoRefs u pk)
  same : ∀ r o, u₀.get? r = some o → u.contains r = true → u.get? r = some o

theorem Tracks.nil : Tracks [] [] [] :=
  ⟨List.nodup_nil, fun _ => ⟨rfl, .refl _⟩, fun _ _ h => nomatch h⟩

theorem Tracks.erase {u₀ u : Utxo} {p : PKBalances} (T : Tracks u₀ u p) {r : OutRef} {o : Output}
    {bal : PKBalance} (h₀ : u₀.get? r = some o) (hc : u.contains r = true)
    (hp : p.get? o.pk = some bal) :
    Tracks u₀ (u.erase r) (p.set o.pk ⟨bal.value - o.value, bal.refs.filter (fun x => x ≠ r)⟩) := by
  have hperm := Map.perm_erase u r o T.nodup (T.same r o h₀ hc)
  refine ⟨Map.nodup_keys_erase u r T.nodup, fun pk => ?_, fun r' o' h hc' => ?_⟩
  · obtain ⟨hv, hr⟩ := T.agrees pk
    have hv' : utxoValue u pk = utxoValue ((r, o) :: u.erase r) pk := perm_sum_int ((hperm.filter _).map _)
    have hr' : (utxoRefs u pk).Perm (utxoRefs ((r, o) :: u.erase r) pk) := (hperm.filter _).map _
    rw [utxoValue_cons] at hv'
    rw [utxoRefs_cons] at hr'
    rw [Map.get?_set]
    by_cases hk : o.pk = pk
    · subst hk
      rw [hp] at hv hr
      rw [if_pos rfl] at hv' ⊢
      rw [utxoRefs_erase]
      simp only [Option.getD_some] at hv hr ⊢
      exact ⟨by omega, hr.filter _⟩
    · rw [if_neg hk] at hv' hr' ⊢
      exact ⟨hv.trans hv', hr.trans hr'⟩
  · rw [Map.contains_erase] at hc'
    simp only [ne_eq, Bool.and_eq_true, decide_eq_true_eq] at hc'
    rw [Map.get?_erase_other _ _ _ hc'.1]
    exact T.same r' o' h hc'.2

theorem Tracks.set {u₀ u : Utxo} {p : PKBalances} (T : Tracks u₀ u p) (k : OutRef) (o : Output)
    (hk : u.contains k = false) (hk₀ : u₀.contains k = false) :
    Tracks u₀ (u.set k o) (p.set o.pk ⟨((p.get? o.pk).getD ⟨0, []⟩).value + o.value,
      ((p.get? o.pk).getD ⟨0, []⟩).refs ++ [k]⟩) := by
  have hset := Map.set_of_get?_none u k o ((Map.contains_eq_false_iff _ _).1 hk)
  refine ⟨Map.nodup_keys_set u k o T.nodup, fun pk => ?_, fun r o' h hc => ?_⟩
  · obtain ⟨hv, hr⟩ := T.agrees pk
    rw [hset, utxoValue_cons, utxoRefs_cons, Map.get?_set]
    by_cases hq : o.pk = pk
    · subst hq
      simp only [↓reduceIte, Option.getD_some]
      exact ⟨by omega, (List.perm_append_singleton k _).trans (hr.cons k)⟩
    · simp only [if_neg hq]
      exact ⟨hv, hr⟩
  · have hne : k ≠ r := by
      rintro rfl
      rw [Map.contains_of_get? _ _ _ h] at hk₀
      cases hk₀
    rw [Map.contains_set] at hc
    simp only [hne, decide_false, Bool.false_or] at hc
    rw [Map.get?_set_other _ _ _ _ hne]
    exact T.same r o' h hc

theorem Tracks.outputs {u₀ : Utxo} (txid : Bytes) (outs : List Output) {u : Utxo}
    {p : PKBalances} (start : Nat) (T : Tracks u₀ u p)
    (hf : ∀ i, start ≤ i → i < start + outs.length → u.contains ⟨txid, i⟩ = false)
    (hf₀ : ∀ i, start ≤ i → i < start + outs.length → u₀.contains ⟨txid, i⟩ = false) :
    Tracks u₀ (addOutputs u txid outs start) (pkbCredit p txid outs start) := by
  fun_induction addOutputs u txid outs start generalizing p with
  | case1 => exact T
  | case2 u o rest start ih =>
    simp only [List.length_cons] at hf hf₀
    refine ih
      (T.set ⟨txid, start⟩ o (hf start (by omega) (by omega)) (hf₀ start (by omega) (by omega)))
      (fun i h1 h2 => ?_) (fun i h1 h2 => hf₀ i (by omega) (by omega))
    rw [Map.contains_set, hf i (by omega) (by omega)]
    have hne : ¬ start = i := by omega
    simp [hne]

theorem Tracks.inputs {u₀ : Utxo} (ins : List Input) {u u' : Utxo} {p p' : PKBalances}
    (T : Tracks u₀ u p) (h1 : removeInputs u ins = .ok u') (h2 : pkbSpend u₀ p ins = .ok p') : Tracks u₀ u' p' := by
  -- the ends of `pkbSpend`: 1 no input left; 2 the spent output is not in `u₀`, 3 its key has no balance; 4 both are there
  fun_induction pkbSpend u₀ p ins generalizing u with
  | case1 => cases h1; cases h2; exact T
  | case2 | case3 => cases h2
  | case4 p i rest o h₀ bal hp ih =>
    obtain ⟨hc, h1⟩ := removeInputs_cons_ok.1 h1
    exact ih (T.erase h₀ hc hp) h1 h2

/-- the next block starts from `u` itself, for which `same` is trivial -/
theorem Tracks.restart {u₀ u : Utxo} {p : PKBalances} (T : Tracks u₀ u p) : Tracks u u p :=
  ⟨T.nodup, T.agrees, fun _ _ h _ => h⟩

variable (C : Crypto)

theorem utoApplyTx_true (u : Utxo) (t : CTx) :
    utoApplyTx C u t true = .ok (addOutputs u (t.id C) t.tx.outputs 0) := rfl

theorem pkbApplyTx_true (u : Utxo) (p : PKBalances) (t : CTx) :
    pkbApplyTx C u p t true = .ok (pkbCredit p (t.id C) t.tx.outputs 0) := rfl

theorem pkbApplyTx_false_of_ok {u₀ : Utxo} {p p' : PKBalances} {t : CTx}
    (h : pkbApplyTx C u₀ p t false = .ok p') :
    ∃ p₁, pkbSpend u₀ p t.tx.inputs = .ok p₁ ∧ p' = pkbCredit p₁ (t.id C) t.tx.outputs 0 := by
  obtain ⟨p₁, h1, h2⟩ := (bind_ok_iff ..).1 h
  exact ⟨p₁, h1, (Except.ok.inj h2).symm⟩

theorem pkbApplyTxs_cons_ok {u₀ : Utxo} {p p' : PKBalances} {t : CTx} {rest : List CTx} :
    pkbApplyTxs C u₀ p (t :: rest) = .ok p' ↔
      ∃ p₁, pkbApplyTx C u₀ p t false = .ok p₁ ∧ pkbApplyTxs C u₀ p₁ rest = .ok p' :=
  bind_ok_iff ..

theorem pkbApplyBlock_cons_of_ok {u₀ : Utxo} {p p' : PKBalances} {b : Block}
    (h : pkbApplyBlock C u₀ p b = .ok p') :
    ∃ cb rest, b.txs = cb :: rest ∧
      pkbApplyTxs C u₀ (pkbCredit p (cb.id C) cb.tx.outputs 0) rest = .ok p' := by
  revert h
  fun_cases pkbApplyBlock C u₀ p b with
  | case1 => exact nofun
  | case2 cb rest hb => exact fun h => ⟨cb, rest, hb, h⟩

theorem replay_cons_of_ok {b : Block} {rest : List Block} {u : Utxo} {p : PKBalances}
    {r : Utxo × PKBalances} (h : replay C (b :: rest) u p = .ok r) :
    ∃ p' u', pkbApplyBlock C u p b = .ok p' ∧ utoApplyBlock C u b = .ok u' ∧
      replay C rest u' p' = .ok r := by
  obtain ⟨p', hp, h⟩ := (bind_ok_iff ..).1 h
  obtain ⟨u', hu, h⟩ := (bind_ok_iff ..).1 h
  exact ⟨p', u', hp, hu, h⟩

theorem nodup_addOutputs {txid : Bytes} {outs : List Output} {u : Utxo} {start : Nat} (h : u.keys.Nodup) :
    (addOutputs u txid outs start).keys.Nodup := by
  fun_induction addOutputs u txid outs start with
  | case1 => exact h
  | case2 u o rest start ih => exact ih (Map.nodup_keys_set u _ o h)

theorem nodup_removeInputs {ins : List Input} {u u' : Utxo} (h : u.keys.Nodup) (hr : removeInputs u ins = .ok u') :
    u'.keys.Nodup := by
  -- the ends of `removeInputs`: 1 no input left; the first reference is 2 there, 3 not there
  fun_induction removeInputs u ins with
  | case1 => cases hr; exact h
  | case2 u i rest _ ih => exact ih (Map.nodup_keys_erase u _ h) hr
  | case3 => cases hr

theorem nodup_utoApplyTxs {txs : List CTx} {u u' : Utxo} (h : u.keys.Nodup) (hr : utoApplyTxs C u txs = .ok u') :
    u'.keys.Nodup := by
  fun_induction utoApplyTxs C u txs with
  | case1 => cases hr; exact h
  | case2 u t rest ih =>
    obtain ⟨u₁, h1, h2⟩ := (utoApplyTxs_cons_ok C).1 hr
    obtain ⟨u₂, h3, rfl⟩ := utoApplyTx_false_of_ok C h1
    exact ih _ (nodup_addOutputs (nodup_removeInputs h h3)) h2

theorem nodup_utoApplyBlock {u u' : Utxo} {b : Block} (h : u.keys.Nodup)
    (hr : utoApplyBlock C u b = .ok u') : u'.keys.Nodup := by
  obtain ⟨cb, rest, _, h2⟩ := utoApplyBlock_cons_of_ok C hr
  exact nodup_utoApplyTxs C (nodup_addOutputs h) h2

theorem nodup_replay {chain : List Block} {u₀ : Utxo} {p₀ : PKBalances} {u : Utxo}
    {p : PKBalances} (h : u₀.keys.Nodup) (hr : replay C chain u₀ p₀ = .ok (u, p)) : u.keys.Nodup := by
  fun_induction replay C chain u₀ p₀ with
  | case1 => cases hr; exact h
  | case2 b rest u₀ p₀ ih =>
    obtain ⟨p', u', _, h2, h3⟩ := replay_cons_of_ok C hr
    exact ih _ _ (nodup_utoApplyBlock C h h2) h3

end Bal

variable (C : Crypto)

/-- the unspent set of a replay is the first component of `replay` -/
theorem replay_fst (l : List Block) (u : Utxo) (p : PKBalances) (r : Utxo × PKBalances)
    (h : replay C l u p = .ok r) : replayUtxo C l u = .ok r.1 := by
  induction l generalizing u p with
  | nil => cases h; rfl
  | cons x rest ih =>
    obtain ⟨p', u', -, hu, h⟩ := Bal.replay_cons_of_ok C h
    rw [replayUtxo_cons_ok C hu]
    exact ih u' p' h

end Model
