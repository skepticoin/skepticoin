import Model.Codec
import Proofs.Vlq

/-! Laws of the codec combinators: round trip (`RT`) and canonicity (`Canon`) for each of them, and from the two laws that no
proper prefix of an encoding decodes and that encodings are injective. On the way the big-endian conversions of `Model.Basic`. -/

namespace Model
namespace Codec

/-- what the encoder writes, the decoder reads back, leaving the rest of the stream -/
def RT (c : Codec α) (wf : α → Prop) : Prop :=
  ∀ a r, wf a → c.dec (c.enc a ++ r) = some (a, r)

/-- whatever the decoder accepts is exactly the encoder's output for the decoded value
followed by the unread rest: one accepted encoding per value -/
def Canon (c : Codec α) (wf : α → Prop) : Prop :=
  ∀ bs a r, c.dec bs = some (a, r) → bs = c.enc a ++ r ∧ wf a

theorem RT.mono {c : Codec α} {p q : α → Prop} (h : RT c p) (hpq : ∀ a, q a → p a) : RT c q :=
  fun a r hq => h a r (hpq a hq)

theorem Canon.mono {c : Codec α} {p q : α → Prop} (h : Canon c p) (hpq : ∀ a, p a → q a) :
    Canon c q :=
  fun bs a r hd => ⟨(h bs a r hd).1, hpq a (h bs a r hd).2⟩

@[simp] theorem fixed_enc (n : Nat) (b : Bytes) : (fixed n).enc b = b := rfl
@[simp] theorem be_enc (n x : Nat) : (be n).enc x = natToBytes n x := rfl
@[simp] theorem vlq_enc (x : Nat) : vlq.enc x = encodeVlq x := rfl
@[simp] theorem const_enc (c : Bytes) (u : Unit) : (const c).enc u = c := rfl
@[simp] theorem skip_enc (c : Bytes) (u : Unit) : (skip c).enc u = c := rfl
@[simp] theorem seq_enc (c₁ : Codec α) (c₂ : Codec β) (x : α × β) :
    (seq c₁ c₂).enc x = c₁.enc x.1 ++ c₂.enc x.2 := rfl
@[simp] theorem iso_enc (f : α → β) (g : β → α) (c : Codec α) (b : β) :
    (iso f g c).enc b = c.enc (g b) := rfl
@[simp] theorem list_enc (c : Codec α) (l : List α) :
    (list c).enc l = encodeVlq l.length ++ encAll c l := rfl
@[simp] theorem lenBytes1_enc (b : Bytes) : lenBytes1.enc b = UInt8.ofNat b.length :: b := rfl

/-- what `safe_read(f, n)` accepts: the decoders of `fixed`, `be`, `const`, `lenBytes1` are this -/
theorem take_drop_iff {n : Nat} {bs a r : Bytes} :
    n ≤ bs.length ∧ bs.take n = a ∧ bs.drop n = r ↔ bs = a ++ r ∧ a.length = n := by
  constructor
  · rintro ⟨h, rfl, rfl⟩; simp [h]
  · rintro ⟨rfl, rfl⟩; simp

theorem fixed_dec {n : Nat} {bs a r : Bytes} :
    (fixed n).dec bs = some (a, r) ↔ bs = a ++ r ∧ a.length = n := by
  rw [← take_drop_iff]; simp [fixed]

theorem fixed_rt (n : Nat) : RT (fixed n) (fun b => b.length = n) :=
  fun _ _ h => fixed_dec.mpr ⟨rfl, h⟩

theorem fixed_canon (n : Nat) : Canon (fixed n) (fun b => b.length = n) :=
  fun _ _ _ => fixed_dec.mp

theorem _root_.Model.zeros_length (n : Nat) : (zeros n).length = n := List.length_replicate

theorem natToBytes_length (n x : Nat) : (natToBytes n x).length = n := by
  induction n <;> simp [natToBytes, *]

theorem foldl_be_inv : ∀ (bs : Bytes) (acc : Nat),
    let v := bs.foldl (fun acc b => acc * 256 + b.toNat) acc
    v / 256 ^ bs.length = acc ∧ natToBytes bs.length v = bs
  | [], acc => by simp [natToBytes]
  | b :: bs, acc => by
    obtain ⟨h₁, h₂⟩ := foldl_be_inv bs (acc * 256 + b.toNat)
    have := b.toNat_lt
    simp only [List.foldl_cons, List.length_cons, natToBytes, h₁, h₂, Nat.pow_succ,
      ← Nat.div_div_eq_div_mul]
    exact ⟨by omega, by rw [show (acc * 256 + b.toNat) % 256 = b.toNat by omega, UInt8.ofNat_toNat]⟩

theorem bytesToNat_cons (b : UInt8) (bs : Bytes) :
    bytesToNat (b :: bs) = b.toNat * 256 ^ bs.length + bytesToNat bs := by
  have key : ∀ (bs : Bytes) (acc : Nat), bs.foldl (fun acc b => acc * 256 + b.toNat) acc
      = acc * 256 ^ bs.length + bs.foldl (fun acc b => acc * 256 + b.toNat) 0 := by
    intro bs
    induction bs with
    | nil => simp
    | cons b bs ih =>
      intro acc
      rw [List.foldl_cons, List.foldl_cons, ih (acc * 256 + b.toNat), ih (0 * 256 + b.toNat)]
      simp only [List.length_cons, Nat.pow_succ, Nat.add_mul, Nat.zero_mul, Nat.zero_add,
        Nat.mul_assoc, Nat.mul_comm 256, Nat.add_assoc]
  simpa [bytesToNat] using key bs (0 * 256 + b.toNat)

theorem bytesToNat_natToBytes (n x : Nat) : bytesToNat (natToBytes n x) = x % 256 ^ n := by
  induction n with
  | zero => simp [natToBytes, bytesToNat, Nat.mod_one]
  | succ n ih =>
    rw [natToBytes, bytesToNat_cons, natToBytes_length, ih, UInt8.toNat_ofNat_of_lt' (Nat.mod_lt _ (by decide)),
      Nat.pow_succ, Nat.mod_mul, Nat.add_comm, Nat.mul_comm]

theorem bytesToNat_natToBytes_of_lt {n x : Nat} (h : x < 256 ^ n) : bytesToNat (natToBytes n x) = x :=
  (bytesToNat_natToBytes n x).trans (Nat.mod_eq_of_lt h)

theorem bytesToNat_lt (bs : Bytes) : bytesToNat bs < 256 ^ bs.length :=
  Nat.lt_of_div_eq_zero (Nat.pow_pos (by omega)) (foldl_be_inv bs 0).1

theorem natToBytes_bytesToNat (bs : Bytes) : natToBytes bs.length (bytesToNat bs) = bs :=
  (foldl_be_inv bs 0).2

theorem bytesToNat_inj {a b : Bytes} (hl : a.length = b.length) (he : bytesToNat a = bytesToNat b) : a = b := by
  rw [← natToBytes_bytesToNat a, ← natToBytes_bytesToNat b, hl, he]

theorem bytesToNat_cons_lt {x y : UInt8} {xs ys : Bytes} (hl : xs.length = ys.length) (h : x < y) :
    bytesToNat (x :: xs) < bytesToNat (y :: ys) := by
  rw [bytesToNat_cons, bytesToNat_cons, hl]
  have hx := bytesToNat_lt xs
  rw [hl] at hx
  have : (x.toNat + 1) * 256 ^ ys.length ≤ y.toNat * 256 ^ ys.length :=
    Nat.mul_le_mul_right _ (UInt8.lt_iff_toNat_lt.mp h)
  rw [Nat.add_mul] at this
  omega

/-- `struct.unpack` is `safe_read` followed by the conversion -/
theorem be_dec (n : Nat) (bs : Bytes) :
    (be n).dec bs = ((fixed n).dec bs).map fun x => (bytesToNat x.1, x.2) := by
  simp only [be, fixed]; split <;> rfl

theorem be_rt (n : Nat) : RT (be n) (fun x => x < 256 ^ n) := fun x r h => by
  rw [be_dec, be_enc, fixed_dec.mpr ⟨rfl, natToBytes_length n x⟩, Option.map_some, bytesToNat_natToBytes_of_lt h]

theorem be_canon (n : Nat) : Canon (be n) (fun x => x < 256 ^ n) := fun bs x r h => by
  rw [be_dec] at h
  obtain ⟨⟨a, r'⟩, d, e⟩ := Option.map_eq_some_iff.mp h
  cases e
  obtain ⟨rfl, rfl⟩ := fixed_dec.mp d
  exact ⟨by rw [be_enc, natToBytes_bytesToNat], bytesToNat_lt a⟩

theorem vlq_rt : RT vlq (fun _ => True) := fun a r _ => decodeVlq_encodeVlq a r

theorem vlq_canon : Canon vlq (fun _ => True) :=
  fun _ _ _ h => ⟨encodeVlq_of_decodeVlq h, trivial⟩

theorem const_dec {c bs r : Bytes} {u : Unit} : (const c).dec bs = some (u, r) ↔ bs = c ++ r := by
  have := take_drop_iff (n := c.length) (bs := bs) (a := c) (r := r)
  simp only [and_true] at this
  rw [← this]; simp [const, and_assoc]

theorem const_rt (c : Bytes) : RT (const c) (fun _ => True) := fun _ _ _ => const_dec.mpr rfl

theorem const_canon (c : Bytes) : Canon (const c) (fun _ => True) :=
  fun _ _ _ h => ⟨const_dec.mp h, trivial⟩

theorem skip_rt (c : Bytes) : RT (skip c) (fun _ => True) := fun _ _ _ => by simp [skip]

theorem lenBytes1_rt : RT lenBytes1 (fun b => b.length < 256) := fun a r h => by
  simp [lenBytes1, UInt8.toNat_ofNat_of_lt' h]

theorem lenBytes1_canon : Canon lenBytes1 (fun b => b.length < 256) := fun bs a r h => by
  -- `bs = []` needs no arm: there `h` reads `none = some _`
  match bs, h with
  | l :: rest, h =>
    obtain ⟨rfl, hl⟩ := take_drop_iff.mp (by simpa [lenBytes1] using h)
    exact ⟨by rw [lenBytes1_enc, hl, UInt8.ofNat_toNat]; rfl, show a.length < 256 from hl ▸ l.toNat_lt⟩

theorem seq_rt {c₁ : Codec α} {c₂ : Codec β} {p : α → Prop} {q : β → Prop}
    (h₁ : RT c₁ p) (h₂ : RT c₂ q) : RT (seq c₁ c₂) (fun x => p x.1 ∧ q x.2) := by
  intro a r h
  simp only [seq, List.append_assoc]
  rw [h₁ a.1 _ h.1]
  simp only
  rw [h₂ a.2 _ h.2]

theorem seq_canon {c₁ : Codec α} {c₂ : Codec β} {p : α → Prop} {q : β → Prop}
    (h₁ : Canon c₁ p) (h₂ : Canon c₂ q) : Canon (seq c₁ c₂) (fun x => p x.1 ∧ q x.2) := by
  intro bs x r h
  simp only [seq] at h
  split at h
  · cases h
  · rename_i d₁
    split at h <;> cases h
    rename_i d₂
    obtain ⟨rfl, w₁⟩ := h₁ _ _ _ d₁
    obtain ⟨rfl, w₂⟩ := h₂ _ _ _ d₂
    exact ⟨(List.append_assoc ..).symm, w₁, w₂⟩

theorem iso_dec (f : α → β) (g : β → α) (c : Codec α) (bs : Bytes) :
    (iso f g c).dec bs = (c.dec bs).map fun x => (f x.1, x.2) := by
  simp only [iso]; cases c.dec bs <;> rfl

theorem iso_rt {c : Codec α} {p : α → Prop} {q : β → Prop} {f : α → β} {g : β → α}
    (h : RT c p) (hfg : ∀ b, f (g b) = b) (hq : ∀ b, q b → p (g b)) : RT (iso f g c) q := by
  intro b r hb
  rw [iso_dec, iso_enc, h (g b) r (hq b hb), Option.map_some, hfg]

theorem iso_canon {c : Codec α} {p : α → Prop} {q : β → Prop} {f : α → β} {g : β → α}
    (h : Canon c p) (hgf : ∀ a, g (f a) = a) (hp : ∀ a, p a → q (f a)) : Canon (iso f g c) q := by
  intro bs b r hd
  rw [iso_dec] at hd
  obtain ⟨⟨a, r'⟩, d, e⟩ := Option.map_eq_some_iff.mp hd
  cases e
  obtain ⟨rfl, w⟩ := h _ _ _ d
  exact ⟨by rw [iso_enc, hgf], hp _ w⟩

theorem encAll_cons (c : Codec α) (a : α) (l : List α) : encAll c (a :: l) = c.enc a ++ encAll c l :=
  List.flatMap_cons

theorem decN_encAll {c : Codec α} {p : α → Prop} (h : RT c p) (r : Bytes) :
    ∀ l : List α, (∀ a ∈ l, p a) → decN c l.length (encAll c l ++ r) = some (l, r)
  | [], _ => rfl
  | a :: l, hl => by
    rw [encAll_cons, List.append_assoc, List.length_cons, decN, h a _ (hl a (by simp))]
    simp only
    rw [decN_encAll h r l fun x hx => hl x (by simp [hx])]

theorem decN_inv {c : Codec α} {p : α → Prop} (h : Canon c p) {n : Nat} {bs : Bytes} {l : List α} {r : Bytes}
    (hd : decN c n bs = some (l, r)) : bs = encAll c l ++ r ∧ l.length = n ∧ ∀ a ∈ l, p a := by
  -- the ends of `decN`: 1 no item is wanted, 2 the first does not decode, 3 it does (`a`) but the others do not, 4 they do (`as`)
  fun_induction decN c n bs generalizing l with
  | case1 => cases hd; exact ⟨rfl, rfl, nofun⟩
  | case2 | case3 => cases hd
  | case4 n bs a r₁ d₁ as r' d₂ ih =>
    cases hd
    obtain ⟨rfl, w₁⟩ := h _ _ _ d₁
    obtain ⟨rfl, rfl, w₂⟩ := ih d₂
    exact ⟨by rw [encAll_cons, List.append_assoc], rfl, List.forall_mem_cons.mpr ⟨w₁, w₂⟩⟩

theorem list_rt {c : Codec α} {p : α → Prop} (h : RT c p) : RT (list c) (fun l => ∀ a ∈ l, p a) := by
  intro l r hl
  simp only [list, List.append_assoc]
  rw [decodeVlq_encodeVlq]
  exact decN_encAll h r l hl

theorem list_canon {c : Codec α} {p : α → Prop} (h : Canon c p) :
    Canon (list c) (fun l => ∀ a ∈ l, p a) := by
  intro bs l r hd
  simp only [list] at hd
  split at hd
  · cases hd
  · rename_i n r₁ hv
    obtain ⟨rfl, rfl, w⟩ := decN_inv h hd
    exact ⟨by rw [encodeVlq_of_decodeVlq hv, list_enc, List.append_assoc], w⟩

theorem prefix_undecodable {c : Codec α} {p : α → Prop} (hrt : RT c p) (hc : Canon c p)
    (a : α) (ha : p a) (n : Nat) (hn : n < (c.enc a).length) : c.dec ((c.enc a).take n) = none := by
  cases hd : c.dec ((c.enc a).take n) with
  | none => rfl
  | some x =>
    obtain ⟨e, w⟩ := hc _ _ _ hd
    -- the prefix is `enc a' ++ r'`; decoding the whole of `enc a` reads `a'` and leaves `r' ++ drop`
    have h1 := hrt a [] ha
    rw [List.append_nil, ← List.take_append_drop n (c.enc a), e, List.append_assoc, hrt _ _ w] at h1
    have := congrArg (fun y => y.2.length) (Option.some.inj h1)
    simp at this; omega

theorem enc_injective {c : Codec α} {p : α → Prop} (hrt : RT c p) (a b : α) (ha : p a) (hb : p b)
    (h : c.enc a = c.enc b) : a = b := by
  have h1 := hrt a [] ha
  rw [h, hrt b [] hb] at h1
  simpa using h1.symm

end Codec
end Model
