import Model.Map

/-! The association-list maps of `Model.Map`: `get?` / `contains` after `set` and `erase`, maps with pairwise distinct keys,
`Upd`. At the end facts about plain lists: `pairwise_lt_of_adjacent`, `perm_sum_int`, and `mapM` in `Except`; list facts that one
module needs stand in front of it (`Proofs/StoreLemmas.lean`, `Proofs/WalletLemmas.lean`). -/

namespace Model
namespace Map
variable {κ ν : Type} [DecidableEq κ]

@[simp] theorem get?_nil (k : κ) : get? ([] : Map κ ν) k = none := rfl

theorem get?_cons (k' : κ) (v : ν) (m : Map κ ν) (k : κ) :
    get? ((k', v) :: m) k = if k' = k then some v else get? m k := rfl

theorem erase_cons (k' : κ) (v : ν) (m : Map κ ν) (k : κ) :
    erase ((k', v) :: m) k = if k' = k then erase m k else (k', v) :: erase m k := by
  by_cases h : k' = k <;> simp [erase, h]

/-- `get?` is `List.find?` on the key, so that the library's facts about `find?` apply -/
theorem get?_eq_find? (m : Map κ ν) (k : κ) : m.get? k = (m.find? (·.1 = k)).map (·.2) := by
  induction m with
  | nil => rfl
  | cons e rest ih =>
    rw [get?_cons, List.find?_cons, ih]
    by_cases h : e.1 = k <;> simp [h]

theorem mem_of_get? {m : Map κ ν} {k : κ} {v : ν} (h : m.get? k = some v) : (k, v) ∈ m := by
  rw [get?_eq_find?, Option.map_eq_some_iff] at h
  obtain ⟨p, hp, rfl⟩ := h
  have hk := List.find?_some hp
  obtain rfl : p.1 = k := of_decide_eq_true hk
  exact List.mem_of_find?_eq_some hp

theorem get?_erase (m : Map κ ν) (k k' : κ) :
    (m.erase k).get? k' = if k' = k then none else m.get? k' := by
  rw [get?_eq_find?, get?_eq_find?, erase, List.find?_filter]
  split
  · next h =>
    subst h
    rw [List.find?_eq_none.2 (by simp), Option.map_none]
  · next h =>
    congr 2
    funext p
    by_cases e : p.1 = k' <;> simp [e, h]

theorem get?_erase_self (m : Map κ ν) (k : κ) : (m.erase k).get? k = none := by
  simp [get?_erase]

theorem get?_erase_other (m : Map κ ν) (k k' : κ) (h : k' ≠ k) :
    (m.erase k).get? k' = m.get? k' := by
  simp [get?_erase, h]

theorem get?_set (m : Map κ ν) (k : κ) (v : ν) (k' : κ) :
    (m.set k v).get? k' = if k = k' then some v else m.get? k' := by
  simp only [set, get?_cons, get?_erase]
  by_cases h : k = k'
  · simp [h]
  · have : ¬ k' = k := fun h' => h h'.symm
    simp [h, this]

theorem get?_set_self (m : Map κ ν) (k : κ) (v : ν) : (m.set k v).get? k = some v := by
  simp [get?_set]

theorem get?_set_other (m : Map κ ν) (k : κ) (v : ν) (k' : κ) (h : k ≠ k') :
    (m.set k v).get? k' = m.get? k' := by
  simp [get?_set, h]

theorem erase_of_get?_none (m : Map κ ν) (k : κ) (h : m.get? k = none) : m.erase k = m := by
  rw [get?_eq_find?, Option.map_eq_none_iff, List.find?_eq_none] at h
  exact List.filter_eq_self.2 fun p hp => by simpa using h p hp

theorem set_of_get?_none (m : Map κ ν) (k : κ) (v : ν) (h : m.get? k = none) :
    m.set k v = (k, v) :: m := by
  rw [set, erase_of_get?_none m k h]

/-- a map from positions that agrees with a list still does when both are extended at the end -/
theorem get?_set_length {m : Map Nat ν} {c : List ν} (h : ∀ i, m.get? i = c[i]?) (v : ν) (i : Nat) :
    (m.set c.length v).get? i = (c ++ [v])[i]? := by
  rw [get?_set]
  rcases Nat.lt_trichotomy i c.length with hi | rfl | hi
  · rw [if_neg (Nat.ne_of_gt hi), h, List.getElem?_append_left hi]
  · rw [if_pos rfl, List.getElem?_concat_length]
  · rw [if_neg (Nat.ne_of_lt hi), h, List.getElem?_eq_none (Nat.le_of_lt hi),
      List.getElem?_eq_none (List.length_append ▸ hi)]

theorem contains_nil (k : κ) : contains ([] : Map κ ν) k = false := rfl

theorem contains_erase (m : Map κ ν) (k k' : κ) :
    (m.erase k).contains k' = (decide (k' ≠ k) && m.contains k') := by
  simp only [contains, get?_erase]
  by_cases h : k' = k <;> simp [h]

theorem contains_set (m : Map κ ν) (k : κ) (v : ν) (k' : κ) :
    (m.set k v).contains k' = (decide (k = k') || m.contains k') := by
  simp only [contains, get?_set]
  by_cases h : k = k' <;> simp [h]

theorem contains_eq_true_iff (m : Map κ ν) (k : κ) :
    m.contains k = true ↔ ∃ v, m.get? k = some v := by
  simp [contains, Option.isSome_iff_exists]

theorem contains_of_get? (m : Map κ ν) (k : κ) (v : ν) (h : m.get? k = some v) :
    m.contains k = true := by
  simp [contains, h]

theorem contains_eq_false_iff (m : Map κ ν) (k : κ) : m.contains k = false ↔ m.get? k = none := by
  simp [contains]

/-- `if k in m: del m[k]` is `erase` -/
theorem ite_erase (m : Map κ ν) (k : κ) : (if m.contains k = true then m.erase k else m) = m.erase k := by
  split
  · rfl
  · next h => exact (erase_of_get?_none m k ((contains_eq_false_iff m k).1 (Bool.eq_false_iff.2 h))).symm

theorem mem_keys_iff_contains (m : Map κ ν) (k : κ) : k ∈ m.keys ↔ m.contains k = true := by
  rw [contains, get?_eq_find?, Option.isSome_map, List.find?_isSome, keys, List.mem_map]
  simp

theorem nodup_keys_erase (m : Map κ ν) (k : κ) (h : m.keys.Nodup) : (m.erase k).keys.Nodup :=
  List.Nodup.sublist (List.Sublist.map _ List.filter_sublist) h

theorem nodup_keys_set (m : Map κ ν) (k : κ) (v : ν) (h : m.keys.Nodup) : (m.set k v).keys.Nodup := by
  simp only [set, keys, List.map_cons, List.nodup_cons]
  refine ⟨?_, nodup_keys_erase m k h⟩
  rw [← keys, mem_keys_iff_contains, contains_erase]
  simp

theorem perm_erase (m : Map κ ν) (k : κ) (v : ν) (hn : m.keys.Nodup) (hg : m.get? k = some v) :
    m.Perm ((k, v) :: m.erase k) := by
  induction m with
  | nil => cases hg
  | cons e rest ih =>
    obtain ⟨k1, v1⟩ := e
    simp only [keys, List.map_cons, List.nodup_cons] at hn
    rw [get?_cons] at hg
    by_cases h : k1 = k
    · subst h
      simp only [↓reduceIte, Option.some.injEq] at hg
      subst hg
      have hnone : get? rest k1 = none :=
        (contains_eq_false_iff _ _).1 (Bool.eq_false_iff.2 fun hc => hn.1 ((mem_keys_iff_contains rest k1).2 hc))
      rw [erase_cons, if_pos rfl, erase_of_get?_none rest k1 hnone]
    · simp only [h, ↓reduceIte] at hg
      rw [erase_cons, if_neg h]
      exact ((ih hn.2 hg).cons (k1, v1)).trans (List.Perm.swap _ _ _)

theorem erase_set_self (m : Map κ ν) (k : κ) (v : ν) : (m.set k v).erase k = m.erase k := by
  simp [set, erase, List.filter_filter]

theorem set_set (m : Map κ ν) (k : κ) (v w : ν) : (m.set k v).set k w = m.set k w := by
  rw [set, erase_set_self]; rfl

/-- `m'` is `m` except under `k`, where it holds `v` (nothing for `none`): what an invariant over several maps needs to know
of one step, whichever of `set`, `erase` or nothing the step performed -/
structure Upd (k : κ) (v : Option ν) (m m' : Map κ ν) : Prop where
  self : m'.get? k = v
  other : ∀ k', k' ≠ k → m'.get? k' = m.get? k'

theorem Upd.set (m : Map κ ν) (k : κ) (v : ν) : Upd k (some v) m (m.set k v) :=
  ⟨get?_set_self m k v, fun k' e => get?_set_other m k v k' (Ne.symm e)⟩

theorem Upd.erase (m : Map κ ν) (k : κ) : Upd k none m (m.erase k) :=
  ⟨get?_erase_self m k, fun k' e => get?_erase_other m k k' e⟩

theorem Upd.refl (m : Map κ ν) (k : κ) : Upd k (m.get? k) m m :=
  ⟨rfl, fun _ _ => rfl⟩

theorem Upd.ite {c : Prop} [Decidable c] {k : κ} {v w : Option ν} {m m₁ m₂ : Map κ ν} (h₁ : Upd k v m m₁)
    (h₂ : Upd k w m m₂) : Upd k (if c then v else w) m (if c then m₁ else m₂) := by
  split
  · exact h₁
  · exact h₂

end Map

/-- the test is linear in the length, where deciding `Pairwise` directly compares every pair -/
theorem pairwise_lt_of_adjacent : ∀ (l : List Nat),
    (l.zip l.tail).all (fun p => decide (p.1 < p.2)) = true → l.Pairwise (· < ·)
  | [], _ => .nil
  | [_], _ => .cons (fun _ h => nomatch h) .nil
  | a :: b :: rest, h => by
    simp only [List.tail_cons, List.zip_cons_cons, List.all_cons, Bool.and_eq_true, decide_eq_true_eq] at h
    have ih := pairwise_lt_of_adjacent (b :: rest) h.2
    refine .cons (fun x hx => ?_) ih
    rcases List.mem_cons.1 hx with rfl | hx
    · exact h.1
    · exact Nat.lt_trans h.1 (List.rel_of_pairwise_cons ih hx)

theorem perm_sum_int {l₁ l₂ : List Int} (h : l₁.Perm l₂) : l₁.sum = l₂.sum := by
  induction h with
  | nil => rfl
  | cons a _ ih => simp only [List.sum_cons, ih]
  | swap a b l => simp only [List.sum_cons]; omega
  | trans _ _ ih1 ih2 => exact ih1.trans ih2

theorem mapM_except_ok_iff {ε α β : Type} (f : α → Except ε β) : ∀ (l : List α) (ys : List β),
    l.mapM f = .ok ys ↔
      ys.length = l.length ∧ ∀ k (hk : k < ys.length) (hk' : k < l.length), f l[k] = .ok ys[k] := by
  intro l
  induction l with
  | nil =>
    intro ys
    constructor
    · rintro ⟨⟩; exact ⟨rfl, fun k hk => absurd hk (Nat.not_lt_zero k)⟩
    · intro h; rw [List.length_eq_zero_iff.1 h.1]; rfl
  | cons a rest ih =>
    intro ys
    rw [List.mapM_cons]
    constructor
    · intro h
      cases hfa : f a with
      | error e => rw [hfa] at h; cases h
      | ok y =>
        cases hr : rest.mapM f with
        | error e => rw [hfa, hr] at h; cases h
        | ok ys' =>
          rw [hfa, hr] at h
          cases h
          obtain ⟨hl, hk⟩ := (ih ys').1 hr
          refine ⟨congrArg (· + 1) hl, fun k hk1 hk2 => ?_⟩
          cases k with
          | zero => exact hfa
          | succ k => exact hk k (Nat.lt_of_succ_lt_succ hk1) (Nat.lt_of_succ_lt_succ hk2)
    · rintro ⟨hl, hk⟩
      cases ys with
      | nil => cases hl
      | cons y ys' =>
        have h0 := hk 0 (Nat.zero_lt_succ _) (Nat.zero_lt_succ _)
        have hr := (ih ys').2 ⟨Nat.succ.inj hl, fun k h1 h2 => hk (k + 1) (Nat.succ_lt_succ h1) (Nat.succ_lt_succ h2)⟩
        rw [List.getElem_cons_zero] at h0
        rw [h0, hr]
        rfl

theorem mapM_except_eq_ok {ε α β : Type} (f : α → Except ε β) (g : α → β) (l : List α)
    (h : ∀ x ∈ l, f x = .ok (g x)) : l.mapM f = .ok (l.map g) :=
  (mapM_except_ok_iff f l _).2 ⟨List.length_map _, fun k _ hk' => by
    rw [List.getElem_map]; exact h _ (List.getElem_mem hk')⟩

end Model
