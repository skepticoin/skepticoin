import Proofs.Chain

/-!
The chain state built from a well-formed arrival history, field by field (`Hist`, by the induction `hist`).
`ChainFacts` is what the chain of a block looks like as a list (`chainOf_facts`, a second induction over the
history), and `chainAtHash` is shown to walk that chain.
-/

namespace Model
variable (C : Crypto)

structure ChainFacts (bs : List Block) (b : Block) (c : List Block) : Prop where
  length : c.length = b.height + 1
  last : c[b.height]? = some b
  height : ∀ i (a : Block), c[i]? = some a → a.height = i
  mem : ∀ a ∈ c, a ∈ bs
  link : ∀ i (a n : Block), c[i]? = some a → c[i + 1]? = some n → n.prev = a.id C
  first : c[0]? = bs.head?

theorem ChainFacts.mono {bs : List Block} {b : Block} {c : List Block} (K : ChainFacts C bs b c)
    (hne : bs ≠ []) (l : List Block) : ChainFacts C (bs ++ l) b c := by
  refine ⟨K.length, K.last, K.height, fun a ha => List.mem_append_left _ (K.mem a ha), K.link, ?_⟩
  rw [K.first, List.head?_append]
  cases bs with
  | nil => exact absurd rfl hne
  | cons x rest => rfl

theorem ChainFacts.single (g : Block) (h0 : g.height = 0) : ChainFacts C [g] g [g] := by
  refine ⟨by rw [h0]; rfl, by rw [h0]; rfl, ?_, fun _ h => h, ?_, rfl⟩
  · intro i a h
    rw [List.getElem?_singleton] at h
    split at h
    · cases h; omega
    · cases h
  · intro i a n _ h
    rw [List.getElem?_singleton] at h
    split at h
    · omega
    · cases h

theorem ChainFacts.snoc {bs : List Block} {p x : Block} {c : List Block} (K : ChainFacts C bs p c)
    (hne : bs ≠ []) (hprev : x.prev = p.id C) (hht : x.height = p.height + 1) :
    ChainFacts C (bs ++ [x]) x (c ++ [x]) := by
  have hl : c.length = x.height := by rw [K.length, hht]
  have K' := K.mono C hne [x]
  refine ⟨by rw [List.length_append, hl]; rfl, ?_, ?_, ?_, ?_, ?_⟩
  · rw [List.getElem?_append_right (Nat.le_of_eq hl), hl, Nat.sub_self]; rfl
  · intro i a h
    rw [List.getElem?_append] at h
    split at h
    · exact K.height i a h
    · rw [List.getElem?_singleton] at h
      split at h
      · cases h; omega
      · cases h
  · intro a ha
    rcases List.mem_append.1 ha with ha | ha
    · exact K'.mem a ha
    · exact List.mem_append_right _ ha
  · intro i a n ha hn
    rw [List.getElem?_append] at ha hn
    split at hn
    · rw [if_pos (by omega)] at ha
      exact K.link i a n ha hn
    · rw [List.getElem?_singleton] at hn
      split at hn
      · cases hn
        have hi : i = p.height := by omega
        rw [if_pos (by omega), hi, K.last] at ha
        cases ha
        exact hprev
      · cases hn
  · rw [List.getElem?_append_left (by omega)]
    exact K'.first

theorem chainOf_facts {bs : List Block} (hwf : WFArrivals C bs) :
    ∀ b ∈ bs, ChainFacts C bs b (chainOf C bs bs.length b) := by
  induction hwf with
  | genesis g h1 h2 h3 =>
    intro b hb
    rw [List.mem_singleton.1 hb, chainOf_genesis C _ _ h1]
    exact .single C g h2
  | snoc bs x p hwf hp hprev hht hnz hfresh ih =>
    have F := hwf.facts C
    have F' := (WFArrivals.snoc bs x p hwf hp hprev hht hnz hfresh).facts C
    intro b hb
    rcases List.mem_append.1 hb with hb | hb
    · rw [chainOf_append C F [x] F' hb]
      exact (ih b hb).mono C F.ne [x]
    · rw [List.mem_singleton.1 hb, chainOf_step C F' (List.mem_append_left _ hp) hprev,
        chainOf_append C F [x] F' hp]
      exact (ih p hp).snoc C F.ne hprev hht

structure Hist (bs : List Block) (s : CoinState) : Prop where
  blocks : ∀ id, s.blocks.get? id = findBlock C bs id
  length : s.blocks.length = bs.length
  utxo : ∀ b ∈ bs, ∃ u, s.utxoAt.get? (b.id C) = some u ∧
    replayUtxo C (chainOf C bs bs.length b) [] = .ok u
  index : ∀ b ∈ bs, ∃ idx, s.byHeightAt.get? (b.id C) = some idx ∧
    ∀ h, idx.get? h = (chainOf C bs bs.length b)[h]?
  current : s.current = (firstMax bs).map (·.id C)
  heads : ∀ id, s.heads.contains id = true ↔ ∃ b ∈ bs, b.id C = id ∧ ∀ c ∈ bs, c.prev ≠ id

section
variable {C} {bs : List Block} {s : CoinState}

theorem Hist.stored (I : Hist C bs s) (F : HistFacts C bs) {b : Block} (hb : b ∈ bs) :
    s.blocks.get? (b.id C) = some b := by
  rw [I.blocks, findBlock_of_mem C F hb]

theorem Hist.of_stored (I : Hist C bs s) {e : Bytes} {y : Block} (h : s.blocks.get? e = some y) :
    y ∈ bs ∧ y.id C = e :=
  findBlock_some C (I.blocks e ▸ h)

theorem Hist.head (I : Hist C bs s) (F : HistFacts C bs) :
    ∃ m ∈ bs, s.current = some (m.id C) ∧ s.head = some m ∧ ∀ x ∈ bs, x.height ≤ m.height := by
  obtain ⟨m, hm, hmem, hge⟩ := firstMax_spec bs F.ne
  have hc : s.current = some (m.id C) := by rw [I.current, hm]; rfl
  exact ⟨m, hmem, hc, (CoinState.head_of_current hc).trans (I.stored F hmem), hge⟩

end

/-- for `utxoAt` and `byHeightAt`: a map that holds for every block of the history a value fitting its chain still does after a
fresh block is appended to the history and its value set under its id -/
theorem forall_get?_id_snoc {ν : Type} {Q : List Block → ν → Prop} {bs : List Block}
    {x : Block} {m : Map Bytes ν} {v : ν} (hfresh : ∀ c ∈ bs, c.id C ≠ x.id C)
    (mono : ∀ b ∈ bs, chainOf C (bs ++ [x]) (bs ++ [x]).length b = chainOf C bs bs.length b)
    (hx : Q (chainOf C (bs ++ [x]) (bs ++ [x]).length x) v)
    (ih : ∀ b ∈ bs, ∃ w, m.get? (b.id C) = some w ∧ Q (chainOf C bs bs.length b) w) :
    ∀ b ∈ bs ++ [x], ∃ w, (m.set (x.id C) v).get? (b.id C) = some w ∧
      Q (chainOf C (bs ++ [x]) (bs ++ [x]).length b) w := by
  intro b hb
  rcases List.mem_append.1 hb with hb | hb
  · rw [mono b hb, Map.get?_set_other _ _ _ _ (fun e => hfresh b hb e.symm)]
    exact ih b hb
  · rw [List.mem_singleton.1 hb]
    exact ⟨v, Map.get?_set_self .., hx⟩

theorem hist {bs : List Block} {s : CoinState} (hwf : WFArrivals C bs)
    (hf : foldBlocks C .empty bs = .ok s) : Hist C bs s := by
  induction hwf generalizing s with
  | genesis g h1 h2 h3 =>
    rw [foldBlocks_single] at hf
    obtain ⟨u₀, u, idx, cur, hu₀, hu, hidx, hcur, rfl⟩ := (add_ok_iff C).1 hf
    rw [parentUtxo_genesis h1] at hu₀
    rw [indexWith_genesis C h1] at hidx
    rw [headWith_none C rfl] at hcur
    cases hu₀; cases hidx; cases hcur
    have hc : chainOf C [g] [g].length g = [g] := chainOf_genesis C _ _ h1
    -- blocks, utxo, index, heads; length and current hold by `rfl`
    refine ⟨?_, rfl, ?_, ?_, rfl, ?_⟩
    · intro id
      rw [← List.nil_append [g], findBlock_snoc C (bs := []) nofun]
      exact Map.get?_set ..
    · intro b hb
      rw [List.mem_singleton.1 hb, hc]
      exact ⟨u, Map.get?_set_self .., replayUtxo_cons_ok C hu []⟩
    · intro b hb
      rw [List.mem_singleton.1 hb, hc]
      exact ⟨[(0, g)], Map.get?_set_self [] _ _, Map.get?_set_length (m := []) (c := []) (fun _ => rfl) g⟩
    · intro id
      rw [contains_headsWith]
      simp only [CoinState.empty, Map.contains_nil, Bool.and_false, Bool.or_false,
        decide_eq_true_eq, List.mem_singleton, exists_eq_left, forall_eq]
      exact ⟨fun h => ⟨h, by rw [h1, ← h]; exact h3.symm⟩, fun h => h.1⟩
  | snoc bs x p hwf hp hprev hht hnz hfresh ih =>
    obtain ⟨s₀, hf₀, ha⟩ := foldBlocks_snoc_ok C hf
    obtain ⟨u₀, u, idx, cur, hu₀, hu, hidx, hcur, rfl⟩ := (add_ok_iff C).1 ha
    have I := ih hf₀
    have F := hwf.facts C
    have F' := (WFArrivals.snoc bs x p hwf hp hprev hht hnz hfresh).facts C
    have hz : x.prev ≠ zeros 32 := by rw [hprev]; exact F.nz p hp
    have hxc := chainOf_step C F' (List.mem_append_left _ hp) hprev
    rw [chainOf_append C F [x] F' hp] at hxc
    -- the fields of `Hist`, in order: blocks, length, utxo, index, current, heads
    refine ⟨?_, ?_, ?_, ?_, ?_, ?_⟩
    · intro id
      rw [Map.get?_set, I.blocks, findBlock_snoc C hfresh]
    · rw [Map.set_of_get?_none _ _ _ (by rw [I.blocks]; exact (findBlock_eq_none C).2 hfresh),
        List.length_cons, I.length, List.length_append, List.length_singleton]
    · refine forall_get?_id_snoc C (Q := fun c u => replayUtxo C c [] = .ok u) hfresh
        (fun b hb => chainOf_append C F [x] F' hb) ?_ I.utxo
      obtain ⟨up, hup, hrp⟩ := I.utxo p hp
      rw [parentUtxo_ok hz, hprev, hup] at hu₀
      cases hu₀
      rw [hxc, replayUtxo_snoc, hrp]
      exact hu
    · obtain ⟨bh, hbh, rfl⟩ := (indexWith_ok C hz).1 hidx
      refine forall_get?_id_snoc C (Q := fun c idx => ∀ h, Map.get? idx h = c[h]?) hfresh
        (fun b hb => chainOf_append C F [x] F' hb) ?_ I.index
      obtain ⟨ip, hip, hgp⟩ := I.index p hp
      rw [hprev, hip] at hbh
      cases hbh
      rw [hxc, hht, ← (chainOf_facts C hwf p hp).length]
      exact Map.get?_set_length hgp x
    · -- `headWith`'s parent case is subsumed: a child of the head is higher than it (`hpar`), so the new head is the first block
      -- of greatest height (`firstMax_snoc`)
      obtain ⟨m, hm, hmem, -⟩ := firstMax_spec bs F.ne
      rw [headWith_stored C x (I.current.trans (by rw [hm]; rfl)) (I.stored F hmem)] at hcur
      cases hcur
      have hpar : m.id C = x.prev → x.height > m.height := fun e => by
        obtain rfl : m = p := F.inj m hmem p hp (e.trans hprev)
        omega
      simp only [or_iff_right_of_imp hpar]
      rw [firstMax_snoc, hm, ← apply_ite (Block.id C)]
      rfl
    · -- the new block has no child yet
      have hnochild : ∀ c ∈ bs ++ [x], c.prev ≠ x.id C := by
        rw [List.forall_mem_append, List.forall_mem_singleton]
        refine ⟨fun c hc => ?_, by rw [hprev]; exact hfresh p hp⟩
        rcases F.par c hc with ⟨hz', -⟩ | ⟨q, hq, hcq, -⟩
        · rw [hz']; exact hnz.symm
        · rw [hcq]; exact hfresh q hq
      intro id
      rw [contains_headsWith]
      simp only [Bool.or_eq_true, Bool.and_eq_true, decide_eq_true_eq, I.heads]
      constructor
      · rintro (rfl | ⟨h, y, hy, rfl, hall⟩)
        · exact ⟨x, List.mem_append_right _ (List.mem_singleton.2 rfl), rfl, hnochild⟩
        · refine ⟨y, List.mem_append_left _ hy, rfl, ?_⟩
          rw [List.forall_mem_append, List.forall_mem_singleton]
          exact ⟨hall, fun e => h e.symm⟩
      · rintro ⟨y, hy, rfl, hall⟩
        rw [List.forall_mem_append, List.forall_mem_singleton] at hall
        rcases List.mem_append.1 hy with hy | hy
        · exact .inr ⟨fun e => hall.2 e.symm, y, hy, rfl, hall.1⟩
        · exact .inl (List.mem_singleton.1 hy ▸ rfl)

theorem chainAtHash_eq_chainOf {bs : List Block} {s : CoinState} (F : HistFacts C bs)
    (I : Hist C bs s) (f : Nat) {x : Block} (hx : x ∈ bs) (hh : x.height ≤ f) :
    chainAtHash s.blocks (f + 1) (x.id C) = .ok (chainOf C bs f x) := by
  have step : ∀ (f : Nat) {x : Block}, x ∈ bs → chainAtHash s.blocks (f + 1) (x.id C) =
      if x.prev = zeros 32 then .ok [x] else chainAtHash s.blocks f x.prev >>= fun rest => pure (rest ++ [x]) :=
    fun f x hx => by rw [chainAtHash, I.stored F hx]
  induction f generalizing x with
  | zero =>
    have hz := F.height_zero C hx (by omega)
    rw [step 0 hx, if_pos hz, chainOf_genesis C bs 0 hz]
  | succ f ih =>
    rw [step _ hx]
    by_cases hz : x.prev = zeros 32
    · rw [if_pos hz, chainOf_genesis C bs _ hz]
    · obtain ⟨q, hq, hp, hhq⟩ := F.parent C hx hz
      rw [if_neg hz, chainOf_succ C F f hq hp, hp, ih hq (by omega)]
      rfl

/-- `chain_at_hash` with the fuel `balancesAt` gives it returns the chain of the block -/
theorem chainAtHash_blocks (bs : List Block) (s : CoinState) (hwf : WFArrivals C bs)
    (hf : foldBlocks C .empty bs = .ok s) {x : Block} (hx : x ∈ bs) :
    chainAtHash s.blocks s.blocks.length (x.id C) = .ok (chainOf C bs bs.length x) := by
  have F := hwf.facts C
  have I := hist C hwf hf
  have hht := F.ht x hx
  obtain ⟨n, hn⟩ : ∃ n, bs.length = n + 1 := ⟨bs.length - 1, by omega⟩
  rw [I.length, hn, chainAtHash_eq_chainOf C F I n hx (by omega),
    chainOf_fuel C F n (n + 1) hx (by omega) (by omega)]

end Model
