import Model.Basic
import Mathlib.Tactic.Ring

/-! The bit length (`bitLen_le_iff`) and the variable-length quantity: the round trip and its inverse stated with the decoder's
own accumulator (`decodeAux_digits`, `decodeAux_inv`), from which `decodeVlq_encodeVlq` and `encodeVlq_of_decodeVlq` follow.

No proof here or downstream uses a Mathlib tactic. The import stays because it decides what `^` on `Nat`
elaborates to (`Monoid.npow` instead of core's `instPowNat`) in every statement downstream of this file, and because it
brings `DecidableEq (Except ε α)`, by which an `example` of `Props/C14Session.lean` is decided (`Props/C14.lean` and
`Proofs/WalletLemmas.lean` import this file for nothing else). -/

namespace Model

theorem bitLen_zero : bitLen 0 = 0 := by unfold bitLen; simp

theorem bitLen_pos {n : Nat} (h : n ≠ 0) : bitLen n = bitLen (n / 2) + 1 := by
  rw [bitLen]; simp [h]

theorem bitLen_le_iff {k n : Nat} : bitLen n ≤ k ↔ n < 2 ^ k := by
  -- the ends of `bitLen`: 1 `n` is zero, 2 it is not, and `n / 2` has one bit less
  fun_induction bitLen n generalizing k with
  | case1 => simp
  | case2 n _ ih =>
    cases k with
    | zero => omega
    | succ k => rw [Nat.add_le_add_iff_right, ih, Nat.pow_succ]; omega

theorem lt_pow_vlqLen (i : Nat) : i < 128 ^ vlqLen i := by
  rw [show 128 = 2 ^ 7 from rfl, ← Nat.pow_mul, ← bitLen_le_iff, vlqLen]; omega

/-- a value whose encoder length is `k` is at least `128^(k-1) / 2` — used for canonicity:
the number of digits determines the range the value lies in. -/
theorem vlqLen_eq_iff (v k : Nat) (hk : 0 < k) :
    vlqLen v = k ↔ (if k = 1 then v < 64 else 2 ^ (7 * (k - 1) - 1) ≤ v ∧ v < 2 ^ (7 * k - 1)) := by
  rw [show 64 = 2 ^ 6 from rfl, ← Nat.not_lt, ← bitLen_le_iff, ← bitLen_le_iff, ← bitLen_le_iff, vlqLen]
  split <;> omega

/-- Reading the `k + 1` low digits of `v`, started with the digits above them in the accumulator
(`decodeVlqAux` keeps it shifted by one digit), yields `v`. -/
theorem decodeAux_digits (v : Nat) (r : Bytes) : ∀ (k n : Nat),
    decodeVlqAux (vlqDigits v (k + 1) ++ r) (v / 128 ^ (k + 1) * 128) n = some (v, n + k + 1, r)
  | 0, n => by
    have hd : v % 128 < 128 := Nat.mod_lt _ (by omega)
    rw [vlqDigits, List.singleton_append, decodeVlqAux, UInt8.toNat_ofNat_of_lt' (show _ < 256 by omega),
      if_pos hd, Nat.mod_mod, Nat.pow_one, Nat.div_add_mod']
  | k + 1, n => by
    rw [vlqDigits, List.cons_append, decodeVlqAux, UInt8.toNat_ofNat_of_lt' (show _ < 256 by omega),
      if_neg (by omega), Nat.add_mod_right, Nat.mod_mod, Nat.pow_succ 128 (k + 1),
      ← Nat.div_div_eq_div_mul, Nat.div_add_mod', decodeAux_digits v r k]
    simp only [Nat.add_assoc, Nat.add_comm 1]

theorem decodeVlq_eq_some {bs r : Bytes} {v : Nat} :
    decodeVlq bs = some (v, r) ↔ decodeVlqAux bs 0 0 = some (v, vlqLen v, r) := by
  unfold decodeVlq
  constructor
  · intro h
    split at h
    · cases h
    · rename_i heq
      split at h <;> cases h
      rename_i hn
      rw [heq, hn]
  · intro h
    rw [h]
    exact if_pos rfl

theorem decodeVlq_encodeVlq (i : Nat) (r : Bytes) : decodeVlq (encodeVlq i ++ r) = some (i, r) := by
  have h := decodeAux_digits i r (bitLen i / 7) 0
  rw [Nat.div_eq_of_lt (show i < 128 ^ (bitLen i / 7 + 1) from lt_pow_vlqLen i), Nat.zero_mul, Nat.zero_add] at h
  exact decodeVlq_eq_some.mpr h

theorem decodeAux_inv {bs : Bytes} (q : Nat) {n v n' : Nat} {r : Bytes} (h : decodeVlqAux bs (q * 128) n = some (v, n', r)) :
    ∃ k, n' = n + k + 1 ∧ v / 128 ^ (k + 1) = q ∧ bs = vlqDigits v (k + 1) ++ r := by
  induction bs generalizing q n with
  | nil => cases h
  | cons b rest ih =>
    -- the byte's low seven bits become the last digit of the accumulator
    have hm : (q * 128 + b.toNat % 128) % 128 = b.toNat % 128 := by rw [Nat.mul_add_mod_self_right, Nat.mod_mod]
    have hq : (q * 128 + b.toNat % 128) / 128 = q := by omega
    rw [decodeVlqAux] at h
    split at h
    · rename_i hb
      cases h
      refine ⟨0, rfl, hq, ?_⟩
      rw [vlqDigits, hm, Nat.mod_eq_of_lt hb, UInt8.ofNat_toNat]; rfl
    · -- the digit above the `k + 1` low ones is the byte just read
      obtain ⟨k, rfl, e, rfl⟩ := ih _ h
      have hb : b.toNat % 128 + 128 = b.toNat := by have := b.toNat_lt; omega
      refine ⟨k + 1, by omega, by rw [Nat.pow_succ, ← Nat.div_div_eq_div_mul, e, hq], ?_⟩
      rw [vlqDigits, e, hm, hb, UInt8.ofNat_toNat]; rfl

theorem encodeVlq_of_decodeVlq {bs : Bytes} {v : Nat} {r : Bytes}
    (h : decodeVlq bs = some (v, r)) : bs = encodeVlq v ++ r := by
  obtain ⟨k, e, _, rfl⟩ := decodeAux_inv 0 (decodeVlq_eq_some.mp h)
  rw [encodeVlq, e, Nat.zero_add]

end Model
