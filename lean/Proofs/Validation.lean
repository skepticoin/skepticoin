import Model.Consensus

/-! Sequences of checks in `Except` (`bind_ok_iff`, `bind_ok_unit`, `forAll_ok`) and the same as a Boolean (`Except.isOk`) for
the ties of `Props/GenTie`; each validator as an iff with what returning normally means (`TxByItself`, `ByItself`, `InState`;
`validateTxInState_of_ok` and `constructEvidence_ok` state one direction only); `addBlock` through its three steps. -/

namespace Model

@[simp] theorem require_ok (c : Bool) (msg : String) (u : Unit) : require c msg = .ok u ↔ c = true := by
  cases c <;> simp [require]

@[simp] theorem requireRange_ok (c : Bool) (u : Unit) : requireRange c = .ok u ↔ c = true := by
  cases c <;> simp [requireRange]

theorem bind_ok_iff {α β : Type} (x : Except Err α) (f : α → Except Err β) (b : β) :
    (x >>= f) = .ok b ↔ ∃ a, x = .ok a ∧ f a = .ok b := by
  cases x <;> simp [bind, Except.bind]

theorem bind_ok_unit {β : Type} (x : Except Err Unit) (f : Unit → Except Err β) (b : β) :
    (x >>= f) = .ok b ↔ x = .ok () ∧ f () = .ok b := by
  cases x <;> simp [bind, Except.bind]

theorem ok_bind {α β : Type} (a : α) (f : α → Except Err β) :
    ((Except.ok a : Except Err α) >>= f) = f a := rfl

theorem error_bind {α β : Type} (e : Err) (f : α → Except Err β) :
    ((Except.error e : Except Err α) >>= f) = .error e := rfl

/-! The ties of `Props/GenTie` compare `Except.isOk` of a validator with the decision function translated from the
Python: a validator that is a sequence of `require`s returns normally iff all its tests hold. -/

theorem eq_ok_iff_isOk (x : Except Err Unit) : x = .ok () ↔ x.isOk = true := by
  cases x <;> simp [Except.isOk, Except.toBool]

theorem isOk_ok {α : Type} (a : α) : (Except.ok a : Except Err α).isOk = true := rfl

theorem isOk_error {α : Type} (e : Err) : (Except.error e : Except Err α).isOk = false := rfl

theorem isOk_bind_unit {β : Type} (x : Except Err Unit) (f : Unit → Except Err β) :
    (x >>= f).isOk = (x.isOk && (f ()).isOk) := by
  cases x <;> rfl

theorem isOk_require (c : Bool) (msg : String) : (require c msg).isOk = c := by
  cases c <;> rfl

theorem isOk_requireRange (c : Bool) : (requireRange c).isOk = c := by
  cases c <;> rfl

theorem isOk_forAll {α : Type} (f : α → Except Err Unit) (l : List α) :
    (forAll f l).isOk = l.all fun a => (f a).isOk := by
  induction l with
  | nil => rfl
  | cons a rest ih => rw [forAll, isOk_bind_unit, List.all_cons, ih]

theorem forAll_ok {α : Type} (f : α → Except Err Unit) (l : List α) :
    forAll f l = .ok () ↔ ∀ a ∈ l, f a = .ok () := by
  simp only [eq_ok_iff_isOk, isOk_forAll, List.all_eq_true]

theorem allRefs_cons (t : CTx) (rest : List CTx) :
    allRefs (t :: rest) = t.tx.inputs.map (·.ref) ++ allRefs rest := by
  simp [allRefs]

theorem mem_allRefs {txs : List CTx} {r : OutRef} :
    r ∈ allRefs txs ↔ ∃ t ∈ txs, ∃ i ∈ t.tx.inputs, i.ref = r := by
  simp only [allRefs, List.mem_flatMap, List.mem_map]

theorem allRefs_filter_sublist (p : CTx → Bool) : ∀ (l : List CTx),
    (allRefs (l.filter p)).Sublist (allRefs l) := by
  intro l
  induction l with
  | nil => exact List.Sublist.refl _
  | cons t rest ih =>
    rw [List.filter_cons, allRefs_cons]
    split
    · rw [allRefs_cons]
      exact (List.Sublist.refl _).append ih
    · exact ih.trans (List.sublist_append_right _ _)

theorem noDuplicateTxs_of_nodup (C : Crypto) (l : List CTx) (hne : ∀ t ∈ l, t.tx.inputs.length ≠ 0)
    (hnd : (allRefs l).Nodup) : noDuplicateTxs C l = true := by
  fun_induction noDuplicateTxs C l with
  | case1 => rfl
  | case2 t rest ih =>
    rw [allRefs_cons, List.nodup_append] at hnd
    obtain ⟨_, hr, hdis⟩ := hnd
    simp only [Bool.and_eq_true, Bool.not_eq_true', List.any_eq_false, decide_eq_true_eq]
    refine ⟨?_, ih (fun x hx => hne x (List.mem_cons_of_mem _ hx)) hr⟩
    intro t' ht' ⟨_, heq⟩
    have h0 := hne t List.mem_cons_self
    cases hin : t.tx.inputs with
    | nil => rw [hin] at h0; exact h0 rfl
    | cons i is =>
      apply hdis i.ref
      · rw [hin]; simp
      · exact mem_allRefs.2 ⟨t', ht', i, by rw [heq, hin]; exact List.mem_cons_self, rfl⟩
      · rfl

theorem outputsValue_nil : outputsValue [] = 0 := rfl

theorem outputsValue_cons (o : Output) (rest : List Output) :
    outputsValue (o :: rest) = o.value + outputsValue rest := rfl

/-- value of the output under `r`, 0 if none -/
abbrev uval (u : Utxo) (r : OutRef) : Nat := ((u.get? r).map (·.value)).getD 0

theorem inputsValue_eq_ok_iff (u : Utxo) (ins : List Input) (total : Nat) :
    inputsValue u ins = .ok total ↔
      (∀ i ∈ ins, ∃ o, u.get? i.ref = some o) ∧ total = (ins.map fun i => uval u i.ref).sum := by
  -- the ends of `inputsValue`, and of `validateInputs` below: 1 no input left; the output that `i` spends is 2 missing, 3 `o`
  fun_induction inputsValue u ins generalizing total with
  | case1 =>
    rw [Except.ok.injEq]
    exact ⟨fun h => ⟨nofun, h.symm⟩, fun h => h.2.symm⟩
  | case2 i rest ho =>
    rw [List.forall_mem_cons, ho]
    exact ⟨nofun, fun ⟨⟨⟨_, h⟩, _⟩, _⟩ => nomatch h⟩
  | case3 i rest o ho ih =>
    rw [List.forall_mem_cons, List.map_cons, List.sum_cons, uval, ho, bind_ok_iff]
    constructor
    · rintro ⟨r, hr, h⟩
      obtain ⟨hall, rfl⟩ := (ih r).1 hr
      cases h
      exact ⟨⟨⟨o, rfl⟩, hall⟩, rfl⟩
    · rintro ⟨⟨_, hall⟩, rfl⟩
      exact ⟨_, (ih _).2 ⟨hall, rfl⟩, rfl⟩

/-- what `validate_non_coinbase_transaction_by_itself` established -/
structure TxByItself (P : Params) (t : CTx) : Prop where
  inputs : t.tx.inputs.length ≠ 0
  outputs : t.tx.outputs.length ≠ 0
  size : (encTx t.tx).length ≤ P.maxBlockSize
  outputRange : ∀ o ∈ t.tx.outputs, 0 < o.value ∧ o.value ≤ P.maxSashimi
  totalRange : 0 < outputsValue t.tx.outputs ∧ outputsValue t.tx.outputs ≤ P.maxSashimi
  refsNodup : (t.tx.inputs.map (·.ref)).Nodup
  notThinAir : ∀ i ∈ t.tx.inputs, i.ref ≠ thinAir
  secp : ∀ i ∈ t.tx.inputs, i.sig.isSecp = true

theorem validateTxByItself_ok (P : Params) (t : CTx) : validateTxByItself P t = .ok () ↔ TxByItself P t := by
  unfold validateTxByItself
  simp only [sashimiInRange, bind_ok_unit, require_ok, requireRange_ok, decide_eq_true_eq, List.all_eq_true]
  exact ⟨fun ⟨a, b, c, d, e, f, g, h⟩ => ⟨a, b, c, d, e, f, g, h⟩,
    fun h => ⟨h.inputs, h.outputs, h.size, h.outputRange, h.totalRange, h.refsNodup, h.notThinAir, h.secp⟩⟩

theorem validateHeaderByItself_ok (C : Crypto) (P : Params) (h : Header) (now : Int) :
    validateHeaderByItself C P h now = .ok () ↔
      (bytesLt (C.sha256d (encHeader h)) h.summary.target = true ∧
       (h.summary.timestamp : Int) ≤ now + P.maxFutureBlockTime) := by
  unfold validateHeaderByItself
  simp [bind_ok_unit]

theorem validateCoinbaseByItself_ok (P : Params) (t : CTx) (h : Nat) :
    validateCoinbaseByItself P t = .ok h ↔
      ∃ d, t.tx.inputs = [⟨thinAir, .coinbase h d⟩] ∧ d.length ≤ P.maxCoinbaseData := by
  unfold validateCoinbaseByItself
  -- exactly one input, out of thin air, carrying the height
  rcases t.tx.inputs with _ | ⟨⟨ref, sig⟩, _ | _⟩
  · simp [verr]
  · by_cases href : ref = thinAir
    · cases sig with
      | coinbase h' d =>
        simp only [href, ne_eq, not_true_eq_false, ↓reduceIte, List.cons.injEq, Input.mk.injEq,
          Sig.coinbase.injEq, true_and, and_true]
        constructor
        · intro e
          split at e
          · cases e
          · next hd => exact ⟨d, ⟨Except.ok.inj e, rfl⟩, Nat.not_lt.1 hd⟩
        · rintro ⟨_, ⟨rfl, rfl⟩, hd⟩
          rw [if_neg (Nat.not_lt.2 hd)]
      | _ => simp [verr, href]
    · simp [verr, href]
  · simp [verr]

/-- what `validate_block_by_itself` established -/
structure ByItself (C : Crypto) (P : Params) (b : Block) (now : Int) : Prop where
  pow : bytesLt (C.sha256d (encHeader b.header)) b.target = true
  notFuture : (b.timestamp : Int) ≤ now + P.maxFutureBlockTime
  nonempty : ∃ cb rest, b.txs = cb :: rest ∧
    (∃ d, cb.tx.inputs = [⟨thinAir, .coinbase b.height d⟩] ∧ d.length ≤ P.maxCoinbaseData) ∧
    (∀ t ∈ rest, validateTxByItself P t = .ok ()) ∧
    noDuplicateTxs C rest = true ∧ (allRefs rest).Nodup
  size : (encBlock b).length ≤ P.maxBlockSize
  merkle : calcMerkleRoot C b.txs = some b.header.summary.merkleRoot

theorem validateBlockByItself_ok (C : Crypto) (P : Params) (b : Block) (now : Int) :
    validateBlockByItself C P b now = .ok () ↔ ByItself C P b now := by
  rw [validateBlockByItself, bind_ok_unit, validateHeaderByItself_ok]
  cases htx : b.txs with
  | nil =>
    refine ⟨fun h => (nomatch h.2), fun h => ?_⟩
    obtain ⟨_, _, e, _⟩ := h.nonempty
    rw [htx] at e
    cases e
  | cons cb rest =>
    -- the checks before the reward transaction's, the reward's height, the checks after it
    simp only [bind_ok_unit, require_ok, decide_eq_true_eq]
    rw [bind_ok_iff]
    simp only [bind_ok_unit, require_ok, decide_eq_true_eq, validateCoinbaseByItself_ok, forAll_ok]
    constructor
    · rintro ⟨⟨hpow, hnf⟩, hsize, _, hcb, rfl, hall, hnd, hrefs, hm⟩
      exact ⟨hpow, hnf, ⟨cb, rest, htx, hcb, hall, hnd, hrefs⟩, hsize, htx ▸ hm⟩
    · rintro ⟨hpow, hnf, ⟨cb', rest', htx', hcb, hall, hnd, hrefs⟩, hsize, hm⟩
      rw [htx] at htx' hm
      cases htx'
      exact ⟨⟨hpow, hnf⟩, hsize, _, hcb, rfl, hall, hnd, hrefs, hm⟩

theorem validateSignature_ok (C : Crypto) (i : Input) (o : Output) (t : Tx) :
    validateSignature C i o t = .ok () ↔
      ∃ s, i.sig = .secp s ∧ C.verify o.pk (encTx (signable t)) s = true := by
  unfold validateSignature
  cases i.sig with
  | secp s =>
    by_cases hv : C.verify o.pk (encTx (signable t)) s = true <;> simp [hv, ok, verr]
  | _ => simp

theorem validateInputs_eq_ok_iff (C : Crypto) (u : Utxo) (t : Tx) (ins : List Input) (total : Nat) :
    validateInputs C u t ins = .ok total ↔
      (∀ i ∈ ins, ∃ o s, u.get? i.ref = some o ∧ i.sig = .secp s ∧ C.verify o.pk (encTx (signable t)) s = true) ∧
      total = (ins.map fun i => uval u i.ref).sum := by
  fun_induction validateInputs C u t ins generalizing total with
  | case1 =>
    rw [Except.ok.injEq]
    exact ⟨fun h => ⟨nofun, h.symm⟩, fun h => h.2.symm⟩
  | case2 i rest ho =>
    rw [List.forall_mem_cons, ho]
    exact ⟨nofun, fun ⟨⟨⟨_, _, h, _⟩, _⟩, _⟩ => nomatch h⟩
  | case3 i rest o ho ih =>
    rw [List.forall_mem_cons, List.map_cons, List.sum_cons, uval, ho, bind_ok_unit, bind_ok_iff, validateSignature_ok]
    constructor
    · rintro ⟨⟨s, hs⟩, r, hr, h⟩
      obtain ⟨hall, rfl⟩ := (ih r).1 hr
      cases h
      exact ⟨⟨⟨o, s, rfl, hs⟩, hall⟩, rfl⟩
    · rintro ⟨⟨⟨o', s, ho', hs⟩, hall⟩, rfl⟩
      cases ho'
      exact ⟨⟨s, hs⟩, _, (ih _).2 ⟨hall, rfl⟩, rfl⟩

theorem validateTxInState_of_ok {C : Crypto} {u : Utxo} {t : CTx} (h : validateTxInState C u t = .ok ()) :
    ∃ total, (∀ i ∈ t.tx.inputs, ∃ o s, u.get? i.ref = some o ∧ i.sig = .secp s ∧
        C.verify o.pk (encTx (signable t.tx)) s = true) ∧
      inputsValue u t.tx.inputs = .ok total ∧ outputsValue t.tx.outputs ≤ total := by
  unfold validateTxInState at h
  rw [bind_ok_iff] at h
  obtain ⟨total, hv, h⟩ := h
  simp only [require_ok, decide_eq_true_eq] at h
  obtain ⟨h1, e⟩ := (validateInputs_eq_ok_iff C u t.tx _ _).1 hv
  exact ⟨total, h1, (inputsValue_eq_ok_iff u _ _).2 ⟨fun i hi => (h1 i hi).imp fun _ ⟨_, h, _⟩ => h, e⟩, h⟩

theorem constructEvidence_ok (C : Crypto) (P : Params) {cs : CoinState} {s : Summary} {height : Nat} {txs : List CTx}
    {e : Evidence} (h : constructEvidence C P cs s height txs = .ok e) :
    e.summaryHash = summaryHash C s height ∧
      e.blockHash = C.blake2 (summaryHash C s height ++ e.chainSample ++ encTxList txs) := by
  simp only [constructEvidence, evidenceAfterScrypt] at h
  split at h <;> cases h
  exact ⟨rfl, rfl⟩

/-- what `validate_block_in_coinstate` established for a block above the checkpoint horizon -/
structure InState (C : Crypto) (P : Params) (cs : CoinState) (b : Block) : Prop where
  parent : ∃ pb, cs.blocks.get? b.prev = some pb ∧ pb.timestamp < b.timestamp ∧
    b.height = pb.height + 1 ∧
    calcTarget C P cs (pb.height + 1) b.timestamp pb = .ok b.target
  evidence : constructEvidence C P cs b.header.summary b.height b.txs = .ok b.header.evidence
  ledger : ∃ u cb rest fees, cs.utxoAt.get? b.prev = some u ∧ b.txs = cb :: rest ∧
    blockFees u rest = .ok fees ∧
    (outputsValue cb.tx.outputs : Int) ≤ fees + subsidy P b.height ∧
    ∀ t ∈ rest, validateTxInState C u t = .ok ()

theorem validateSummaryInState_ok (C : Crypto) (P : Params) (cs : CoinState) (s : Summary) :
    validateSummaryInState C P cs s = .ok () ↔
      ∃ pb, cs.blocks.get? s.prev = some pb ∧ pb.timestamp < s.timestamp ∧
        calcTarget C P cs (pb.height + 1) s.timestamp pb = .ok s.target := by
  unfold validateSummaryInState
  cases cs.blocks.get? s.prev with
  | none => exact ⟨nofun, fun ⟨_, h, _⟩ => nomatch h⟩
  | some pb =>
    simp only [bind_ok_unit, require_ok, decide_eq_true_eq, Option.some.injEq, exists_eq_left']
    rw [bind_ok_iff]
    simp only [require_ok, decide_eq_true_eq]
    exact ⟨fun ⟨h1, t, h2, h3⟩ => ⟨h1, h3 ▸ h2⟩, fun ⟨h1, h2⟩ => ⟨h1, _, h2, rfl⟩⟩

theorem validateCoinbaseInState_ok (P : Params) (cs : CoinState) (cb : CTx) (b : Block) :
    validateCoinbaseInState P cs cb b = .ok () ↔
      ∃ pb u fees, cs.blocks.get? b.prev = some pb ∧ b.height = pb.height + 1 ∧
        cs.utxoAt.get? b.prev = some u ∧ blockFees u b.txs.tail = .ok fees ∧
        (outputsValue cb.tx.outputs : Int) ≤ fees + subsidy P b.height := by
  unfold validateCoinbaseInState
  cases cs.blocks.get? b.prev with
  | none => exact ⟨nofun, fun ⟨_, _, _, h, _⟩ => nomatch h⟩
  | some pb =>
    cases cs.utxoAt.get? b.prev with
    | none =>
      exact ⟨fun h => (nomatch ((bind_ok_unit ..).1 h).2), fun ⟨_, _, _, _, _, h, _⟩ => nomatch h⟩
    | some u =>
      simp only [bind_ok_unit, require_ok, decide_eq_true_eq, Option.some.injEq]
      rw [bind_ok_iff]
      simp only [require_ok, decide_eq_true_eq]
      constructor
      · exact fun ⟨h1, fees, h2, h3⟩ => ⟨pb, u, fees, rfl, h1, rfl, h2, h3⟩
      · rintro ⟨_, _, fees, rfl, h1, rfl, h2, h3⟩
        exact ⟨h1, fees, h2, h3⟩

theorem validateBlockInState_ok (C : Crypto) (P : Params) (cs : CoinState) (b : Block)
    (hz : ¬ ((b.height : Int) ≤ P.maxKnownHeight)) :
    validateBlockInState C P cs b = .ok () ↔ InState C P cs b := by
  rw [validateBlockInState, if_neg hz, bind_ok_unit, validateSummaryInState_ok, bind_ok_iff]
  simp only [bind_ok_unit, require_ok, decide_eq_true_eq]
  cases htx : b.txs with
  | nil =>
    -- without transactions the `match` after the evidence check raises: the last component of `h` reads `error _ = ok ()`
    refine ⟨fun h => (nomatch h.2.choose_spec.2.2), fun h => ?_⟩
    obtain ⟨_, _, _, _, _, e, _⟩ := h.ledger
    rw [htx] at e
    cases e
  | cons cb rest =>
    simp only [bind_ok_unit, validateCoinbaseInState_ok, htx, List.tail_cons]
    -- the left side is now: the summary's facts, then an evidence `ev` with `constructEvidence … = ok ev` and
    -- `b.header.evidence = ev`, the reward's facts (which name the parent a second time), the `forAll` over `rest`
    constructor
    · rintro ⟨⟨pb, hpb, hts, htg⟩, _, hev, rfl, ⟨pb', u, fees, hpb', hh, hu, hf, hle⟩, hall⟩
      rw [hu, forAll_ok] at hall
      obtain rfl : pb = pb' := Option.some.inj (hpb.symm.trans hpb')
      exact ⟨⟨pb, hpb, hts, hh, htg⟩, htx ▸ hev, u, cb, rest, fees, hu, htx, hf, hle, hall⟩
    · rintro ⟨⟨pb, hpb, hts, hh, htg⟩, hev, u, cb', rest', fees, hu, htx', hf, hle, hall⟩
      rw [htx] at htx' hev
      cases htx'
      refine ⟨⟨pb, hpb, hts, htg⟩, _, hev, rfl, ⟨pb, u, fees, hpb, hh, hu, hf, hle⟩, ?_⟩
      rw [hu, forAll_ok]
      exact hall

theorem validateBlockInState_below (C : Crypto) (P : Params) (cs : CoinState) (b : Block)
    (hle : (b.height : Int) ≤ P.maxKnownHeight) :
    validateBlockInState C P cs b =
      match P.knownHashes.lookup b.height with
      | some h => require (b.id C = h) "No forks allowed before the last checkpoint"
      | none => ok := by
  rw [validateBlockInState, if_pos hle]
  cases P.knownHashes.lookup b.height <;> rfl

theorem addBlock_ok (C : Crypto) (P : Params) (cs cs' : CoinState) (b : Block) (now : Int) :
    addBlock C P cs b now = .ok cs' ↔
      validateBlockByItself C P b now = .ok () ∧ validateBlockInState C P cs b = .ok () ∧
      addBlockNoValidation C cs b = .ok cs' := by
  simp only [addBlock, bind_ok_unit]

theorem addBlock_accepted {C : Crypto} {P : Params} {cs cs' : CoinState} {b : Block} {now : Int}
    (h : addBlock C P cs b now = .ok cs') :
    ByItself C P b now ∧ (P.maxKnownHeight < b.height → InState C P cs b) ∧
      addBlockNoValidation C cs b = .ok cs' := by
  obtain ⟨h1, h2, h3⟩ := (addBlock_ok C P cs cs' b now).1 h
  exact ⟨(validateBlockByItself_ok C P b now).1 h1,
    fun hz => (validateBlockInState_ok C P cs b (Int.not_le.2 hz)).1 h2, h3⟩

theorem addBlock_future_rejected {C : Crypto} {P : Params} {b : Block} {now : Int}
    (hts : (b.timestamp : Int) > now + P.maxFutureBlockTime) (cs cs' : CoinState) :
    addBlock C P cs b now ≠ .ok cs' :=
  fun h => Int.not_le.2 hts (addBlock_accepted h).1.notFuture

theorem addBlock_of {C : Crypto} {P : Params} {cs cs' : CoinState} {b : Block} {now : Int}
    (B : ByItself C P b now) (hz : P.maxKnownHeight < b.height) (S : InState C P cs b)
    (h : addBlockNoValidation C cs b = .ok cs') : addBlock C P cs b now = .ok cs' :=
  (addBlock_ok C P cs cs' b now).2
    ⟨(validateBlockByItself_ok C P b now).2 B, (validateBlockInState_ok C P cs b (Int.not_le.2 hz)).2 S, h⟩

/-- above the checkpoint horizon validation never looks at the id a block object has cached, and a later clock only helps -/
theorem addBlock_recache (C : Crypto) (P : Params) {cs cs' : CoinState} {b b' : Block} {now now' : Int} (hh : b'.header = b.header)
    (ht : b'.txs = b.txs) (hz : P.maxKnownHeight < b.height) (hn : now ≤ now')
    (h : addBlock C P cs b now = .ok cs') : addBlock C P cs b' now' = addBlockNoValidation C cs b' := by
  obtain ⟨hd, txs, c⟩ := b
  obtain ⟨hd', txs', c'⟩ := b'
  subst hh ht
  obtain ⟨B, S, _⟩ := addBlock_accepted h
  have S := S hz
  unfold addBlock
  rw [(validateBlockByItself_ok C P ⟨hd', txs', c'⟩ now').2
      ⟨B.pow, Int.le_trans B.notFuture (by omega), B.nonempty, B.size, B.merkle⟩,
    ok_bind, (validateBlockInState_ok C P cs ⟨hd', txs', c'⟩ (Int.not_le.2 hz)).2 ⟨S.parent, S.evidence, S.ledger⟩,
    ok_bind]

end Model
