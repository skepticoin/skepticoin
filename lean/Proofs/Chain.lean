import Model.Spec
import Proofs.Map
import Proofs.Validation

/-!
`utoApplyBlock` step by step, from a success backwards and from present, pairwise distinct references forwards;
`addBlockNoValidation` in a form proofs can use (`add_ok_iff`); `foldBlocks`, `replayUtxo`; and the vocabulary of `Model.Spec`
about arrival histories: `WFArrivals` (with a decision procedure for concrete histories), `findBlock`, `chainOf`, `firstMax`.
-/

namespace Model
variable (C : Crypto)

theorem CoinState.head_of_current {cs : CoinState} {c : Bytes} (h : cs.current = some c) :
    cs.head = cs.blocks.get? c := by
  rw [CoinState.head, h, Option.bind_some]

theorem removeInputs_cons_ok {u u' : Utxo} {i : Input} {rest : List Input} :
    removeInputs u (i :: rest) = .ok u' ↔
      u.contains i.ref = true ∧ removeInputs (u.erase i.ref) rest = .ok u' := by
  rw [removeInputs]
  split
  · next h => exact ⟨fun e => ⟨h, e⟩, fun e => e.2⟩
  · next h => exact ⟨nofun, fun e => absurd e.1 h⟩

theorem utoApplyTx_false_of_ok {u u' : Utxo} {t : CTx} (h : utoApplyTx C u t false = .ok u') :
    ∃ u₁, removeInputs u t.tx.inputs = .ok u₁ ∧ u' = addOutputs u₁ (t.id C) t.tx.outputs 0 := by
  obtain ⟨u₁, h1, h2⟩ := (bind_ok_iff ..).1 h
  exact ⟨u₁, h1, (Except.ok.inj h2).symm⟩

theorem utoApplyTxs_cons_ok {u u' : Utxo} {t : CTx} {rest : List CTx} :
    utoApplyTxs C u (t :: rest) = .ok u' ↔ ∃ u₁, utoApplyTx C u t false = .ok u₁ ∧ utoApplyTxs C u₁ rest = .ok u' :=
  bind_ok_iff ..

theorem utoApplyBlock_cons {b : Block} {cb : CTx} {rest : List CTx} (htx : b.txs = cb :: rest) (u : Utxo) :
    utoApplyBlock C u b = utoApplyTxs C (addOutputs u (cb.id C) cb.tx.outputs 0) rest := by
  rw [utoApplyBlock, htx]
  rfl

theorem utoApplyBlock_cons_of_ok {u u' : Utxo} {b : Block} (h : utoApplyBlock C u b = .ok u') :
    ∃ cb rest, b.txs = cb :: rest ∧
      utoApplyTxs C (addOutputs u (cb.id C) cb.tx.outputs 0) rest = .ok u' := by
  revert h
  fun_cases utoApplyBlock C u b with
  | case1 => exact nofun
  | case2 cb rest hb => exact fun h => ⟨cb, rest, hb, h⟩

theorem addOutputs_contains (txid : Bytes) (k : OutRef) (outs : List Output) (u : Utxo) (i : Nat)
    (h : u.contains k = true) : (addOutputs u txid outs i).contains k = true := by
  fun_induction addOutputs u txid outs i with
  | case1 => exact h
  | case2 u o rest i ih => exact ih (by rw [Map.contains_set, h, Bool.or_true])

theorem removeInputs_of_present_nodup (ins : List Input) (u : Utxo)
    (hnd : (ins.map (·.ref)).Nodup) (hall : ∀ i ∈ ins, u.contains i.ref = true) :
    ∃ u', removeInputs u ins = .ok u' ∧
      ∀ k, k ∉ ins.map (·.ref) → u.contains k = true → u'.contains k = true := by
  -- the ends of `removeInputs`: 1 no input left; the first reference is 2 there, and erased, 3 not there
  fun_induction removeInputs u ins with
  | case1 u => exact ⟨u, rfl, fun _ _ h => h⟩
  | case2 u i rest _ ih =>
    simp only [List.map_cons, List.nodup_cons] at hnd
    have hrest : ∀ j ∈ rest, (u.erase i.ref).contains j.ref = true := by
      intro j hj
      rw [Map.contains_erase, hall j (List.mem_cons_of_mem _ hj), Bool.and_true,
        decide_eq_true_eq]
      intro heq
      exact hnd.1 (heq ▸ List.mem_map_of_mem hj)
    obtain ⟨u', hu', hk⟩ := ih hnd.2 hrest
    refine ⟨u', hu', ?_⟩
    intro k hk' hc
    simp only [List.map_cons, List.mem_cons, not_or] at hk'
    apply hk k hk'.2
    rw [Map.contains_erase, hc, Bool.and_true, decide_eq_true_eq]
    exact hk'.1
  | case3 u i rest hi => exact absurd (hall i List.mem_cons_self) hi

theorem utoApplyTxs_of_present_nodup (txs : List CTx) (u : Utxo)
    (hnd : (allRefs txs).Nodup) (hall : ∀ r ∈ allRefs txs, u.contains r = true) :
    ∃ u', utoApplyTxs C u txs = .ok u' := by
  fun_induction utoApplyTxs C u txs with
  | case1 u => exact ⟨u, rfl⟩
  | case2 u t rest ih =>
    rw [allRefs_cons] at hnd hall
    rw [List.nodup_append] at hnd
    obtain ⟨hnd1, hnd2, hdis⟩ := hnd
    obtain ⟨u₁, hu₁, hk⟩ := removeInputs_of_present_nodup t.tx.inputs u hnd1 (by
      intro i hi
      exact hall _ (List.mem_append_left _ (List.mem_map_of_mem hi)))
    obtain ⟨u', hu'⟩ := ih (addOutputs u₁ (t.id C) t.tx.outputs 0) hnd2 (by
      intro r hr
      apply addOutputs_contains
      apply hk r
      · intro hr'; exact hdis r hr' r hr rfl
      · exact hall r (List.mem_append_right _ hr))
    refine ⟨u', ?_⟩
    simp only [utoApplyTx, Bool.false_eq_true, ↓reduceIte, hu₁, ok_bind, pure, Except.pure, hu']

theorem utoApplyBlock_of_present_nodup (u : Utxo) (b : Block) (cb : CTx) (rest : List CTx)
    (htx : b.txs = cb :: rest) (hnd : (allRefs rest).Nodup)
    (hall : ∀ r ∈ allRefs rest, u.contains r = true) : ∃ u', utoApplyBlock C u b = .ok u' := by
  obtain ⟨u', hu'⟩ := utoApplyTxs_of_present_nodup C rest (addOutputs u (cb.id C) cb.tx.outputs 0) hnd (by
    intro r hr; exact addOutputs_contains _ _ _ _ _ (hall r hr))
  exact ⟨u', utoApplyBlock_cons C htx u ▸ hu'⟩

/-! The `do` block of `addBlockNoValidation` is elaborated with the rest of the function copied into every branch of
its `if`s and `match`es, so the unfolded term repeats the tail of the function once per branch. The three look-ups in it that
can fail (`parentUtxo`, `indexWith`, `headWith`) and the new tips (`headsWith`) are named here, the function is shown once to be
their sequence (`addBlockNoValidation_eq`), and everything else goes through `add_ok_iff` and the lemmas about the steps. -/

def parentUtxo (cs : CoinState) (b : Block) : Except Err Utxo :=
  if b.prev = zeros 32 then pure [] else
    match cs.utxoAt.get? b.prev with
    | some u => pure u
    | none => throw (.key "utxo of parent")

def indexWith (cs : CoinState) (b : Block) : Except Err (Map Bytes (Map Nat Block)) :=
  if b.prev = zeros 32 then pure [(b.id C, [(0, b)])] else
    match cs.byHeightAt.get? b.prev with
    | some bh => pure (cs.byHeightAt.set (b.id C) (bh.set b.height b))
    | none => throw (.key "by-height of parent")

def headWith (cs : CoinState) (b : Block) : Except Err Bytes :=
  match cs.current with
  | none => pure (b.id C)
  | some c =>
    if c = b.prev then pure (b.id C)
    else match cs.blocks.get? c with
      | none => throw (.key "current head")
      | some cb => pure (if b.height > cb.height then b.id C else c)

def headsWith (cs : CoinState) (b : Block) : Map Bytes Block :=
  (if cs.heads.contains b.prev then cs.heads.erase b.prev else cs.heads).set (b.id C) b

theorem contains_headsWith (cs : CoinState) (b : Block) (id : Bytes) :
    (headsWith C cs b).contains id =
      (decide (b.id C = id) || (decide (id ≠ b.prev) && cs.heads.contains id)) := by
  rw [headsWith, Map.contains_set, Map.ite_erase, Map.contains_erase]

theorem addBlockNoValidation_eq (cs : CoinState) (b : Block) :
    addBlockNoValidation C cs b = (do
      let u₀ ← parentUtxo cs b
      let u ← utoApplyBlock C u₀ b
      let idx ← indexWith C cs b
      let cur ← headWith C cs b
      pure ⟨cs.blocks.set (b.id C) b, cs.utxoAt.set (b.id C) u, idx, headsWith C cs b, some cur⟩) := by
  unfold addBlockNoValidation parentUtxo indexWith headWith headsWith
  by_cases hz : b.prev = zeros 32
  · simp only [hz, if_true]
    cases cs.current with
    | none => rfl
    | some c =>
      by_cases hc : c = zeros 32
      · simp only [hc, if_true]
      · simp only [hc, if_false]; cases cs.blocks.get? c <;> rfl
  · simp only [hz, if_false]
    cases cs.utxoAt.get? b.prev with
    | none => rfl
    | some u₀ =>
      cases cs.byHeightAt.get? b.prev with
      | none => cases utoApplyBlock C u₀ b <;> rfl
      | some bh =>
        cases cs.current with
        | none => rfl
        | some c =>
          by_cases hc : c = b.prev
          · simp only [hc, if_true]
          · simp only [hc, if_false]; cases cs.blocks.get? c <;> rfl

theorem add_ok_iff {cs cs' : CoinState} {b : Block} :
    addBlockNoValidation C cs b = .ok cs' ↔
      ∃ u₀ u idx cur, parentUtxo cs b = .ok u₀ ∧ utoApplyBlock C u₀ b = .ok u ∧
        indexWith C cs b = .ok idx ∧ headWith C cs b = .ok cur ∧
        cs' = ⟨cs.blocks.set (b.id C) b, cs.utxoAt.set (b.id C) u, idx, headsWith C cs b, some cur⟩ := by
  simp only [addBlockNoValidation_eq, bind_ok_iff, pure, Except.pure, Except.ok.injEq]
  exact ⟨fun ⟨u₀, h1, u, h2, idx, h3, cur, h4, e⟩ => ⟨u₀, u, idx, cur, h1, h2, h3, h4, e.symm⟩,
    fun ⟨u₀, u, idx, cur, h1, h2, h3, h4, e⟩ => ⟨u₀, h1, u, h2, idx, h3, cur, h4, e.symm⟩⟩

theorem parentUtxo_genesis {cs : CoinState} {b : Block} (hz : b.prev = zeros 32) :
    parentUtxo cs b = .ok [] := by
  simp only [parentUtxo, hz, if_true]; rfl

theorem parentUtxo_ok {cs : CoinState} {b : Block} (hz : b.prev ≠ zeros 32) {u₀ : Utxo} :
    parentUtxo cs b = .ok u₀ ↔ cs.utxoAt.get? b.prev = some u₀ := by
  simp only [parentUtxo, hz, if_false]
  cases cs.utxoAt.get? b.prev with
  | none => exact ⟨nofun, nofun⟩
  | some u => exact ⟨fun h => congrArg some (Except.ok.inj h), fun h => congrArg Except.ok (Option.some.inj h)⟩

theorem indexWith_genesis {cs : CoinState} {b : Block} (hz : b.prev = zeros 32) :
    indexWith C cs b = .ok [(b.id C, [(0, b)])] := by
  simp only [indexWith, hz, if_true]; rfl

theorem indexWith_ok {cs : CoinState} {b : Block} (hz : b.prev ≠ zeros 32)
    {idx : Map Bytes (Map Nat Block)} :
    indexWith C cs b = .ok idx ↔ ∃ bh, cs.byHeightAt.get? b.prev = some bh ∧
      idx = cs.byHeightAt.set (b.id C) (bh.set b.height b) := by
  simp only [indexWith, hz, if_false]
  cases cs.byHeightAt.get? b.prev with
  | none => exact ⟨nofun, fun ⟨_, h, _⟩ => nomatch h⟩
  | some bh =>
    exact ⟨fun h => ⟨bh, rfl, (Except.ok.inj h).symm⟩, fun ⟨_, h, e⟩ => by cases h; rw [e]; rfl⟩

theorem headWith_none {cs : CoinState} {b : Block} (h : cs.current = none) :
    headWith C cs b = .ok (b.id C) := by
  simp only [headWith, h]; rfl

theorem headWith_parent {cs : CoinState} {b : Block} (h : cs.current = some b.prev) :
    headWith C cs b = .ok (b.id C) := by
  simp only [headWith, h, if_true]; rfl

theorem headWith_other {cs : CoinState} {b : Block} {c : Bytes} (h : cs.current = some c)
    (hne : c ≠ b.prev) {cur : Bytes} :
    headWith C cs b = .ok cur ↔ ∃ cb, cs.blocks.get? c = some cb ∧
      cur = if b.height > cb.height then b.id C else c := by
  simp only [headWith, h, hne, if_false]
  cases cs.blocks.get? c with
  | none => exact ⟨nofun, fun ⟨_, h, _⟩ => nomatch h⟩
  | some cb =>
    exact ⟨fun h => ⟨cb, rfl, (Except.ok.inj h).symm⟩, fun ⟨_, h, e⟩ => by cases h; rw [e]; rfl⟩

/-- the closed form when the head is stored -/
theorem headWith_stored {cs : CoinState} (b : Block) {c : Bytes} {cb : Block}
    (h : cs.current = some c) (hb : cs.blocks.get? c = some cb) :
    headWith C cs b = .ok (if c = b.prev ∨ b.height > cb.height then b.id C else c) := by
  by_cases hp : c = b.prev
  · rw [if_pos (.inl hp)]
    exact headWith_parent C (hp ▸ h)
  · simp only [hp, false_or]
    exact (headWith_other C h hp).2 ⟨cb, hb, rfl⟩

theorem headWith_cases {cs : CoinState} {b : Block} {cur : Bytes} (h : headWith C cs b = .ok cur) :
    cur = b.id C ∨ ∃ cb, cs.blocks.get? cur = some cb := by
  revert h
  -- the ends of `headWith`: 1 no head yet, 2 the head is the parent; the head `c` is another block, 3 not stored, 4 stored as `cb`
  fun_cases headWith C cs b with
  | case1 | case2 => exact fun h => .inl (Except.ok.inj h).symm
  | case3 => exact nofun
  | case4 c _ _ cb hcb =>
    rintro ⟨⟩
    split
    · exact .inl rfl
    · exact .inr ⟨cb, hcb⟩

theorem add_ok_blocks {cs cs' : CoinState} {b : Block} (h : addBlockNoValidation C cs b = .ok cs') :
    cs'.blocks = cs.blocks.set (b.id C) b := by
  obtain ⟨_, _, _, _, -, -, -, -, rfl⟩ := (add_ok_iff C).1 h
  rfl

theorem add_ok_current {cs cs' : CoinState} {b : Block} (h : addBlockNoValidation C cs b = .ok cs') :
    ∃ cur, headWith C cs b = .ok cur ∧ cs'.current = some cur := by
  obtain ⟨_, _, _, cur, -, -, -, hcur, rfl⟩ := (add_ok_iff C).1 h
  exact ⟨cur, hcur, rfl⟩

/-- success from its four ingredients, for a block with a parent -/
theorem add_ok_of {cs : CoinState} {b : Block} {u₀ u : Utxo} {bh : Map Nat Block} {cur : Bytes}
    (hz : b.prev ≠ zeros 32) (hu0 : cs.utxoAt.get? b.prev = some u₀)
    (hap : utoApplyBlock C u₀ b = .ok u) (hbh : cs.byHeightAt.get? b.prev = some bh)
    (hcur : headWith C cs b = .ok cur) : ∃ cs', addBlockNoValidation C cs b = .ok cs' :=
  ⟨_, (add_ok_iff C).2 ⟨u₀, u, _, cur, (parentUtxo_ok hz).2 hu0, hap,
    (indexWith_ok C hz).2 ⟨bh, hbh, rfl⟩, hcur, rfl⟩⟩

theorem add_ok_head_some {cs cs' : CoinState} {b : Block}
    (h : addBlockNoValidation C cs b = .ok cs') : ∃ hd, cs'.head = some hd := by
  obtain ⟨cur, hcur, hc⟩ := add_ok_current C h
  rw [CoinState.head_of_current hc, add_ok_blocks C h, Map.get?_set]
  rcases headWith_cases C hcur with rfl | ⟨cb, hcb⟩
  · exact ⟨b, if_pos rfl⟩
  · split
    · exact ⟨b, rfl⟩
    · exact ⟨cb, hcb⟩

theorem add_ok_head_of_current {cs cs' : CoinState} {b : Block}
    (h : addBlockNoValidation C cs b = .ok cs') (hc : cs'.current = some (b.id C)) :
    cs'.head = some b := by
  rw [CoinState.head_of_current hc, add_ok_blocks C h]
  exact Map.get?_set_self ..

theorem add_ok_contains {cs cs' : CoinState} {b : Block}
    (h : addBlockNoValidation C cs b = .ok cs') (id : Bytes) :
    cs'.blocks.contains id = (decide (b.id C = id) || cs.blocks.contains id) := by
  rw [add_ok_blocks C h, Map.contains_set]

theorem foldBlocks_append (cs : CoinState) (l₁ l₂ : List Block) :
    foldBlocks C cs (l₁ ++ l₂) = foldBlocks C cs l₁ >>= fun s => foldBlocks C s l₂ := by
  induction l₁ generalizing cs with
  | nil => rfl
  | cons x rest ih =>
    simp only [List.cons_append, foldBlocks]
    cases addBlockNoValidation C cs x with
    | error e => rfl
    | ok s' => exact ih s'

theorem foldBlocks_append_ok {cs s s' : CoinState} {l₁ l₂ : List Block}
    (h₁ : foldBlocks C cs l₁ = .ok s) (h₂ : foldBlocks C s l₂ = .ok s') :
    foldBlocks C cs (l₁ ++ l₂) = .ok s' := by
  rw [foldBlocks_append, h₁]
  exact h₂

theorem foldBlocks_single (cs : CoinState) (b : Block) :
    foldBlocks C cs [b] = addBlockNoValidation C cs b := by
  simp only [foldBlocks]
  cases addBlockNoValidation C cs b <;> rfl

theorem foldBlocks_snoc_ok {cs s : CoinState} {bs : List Block} {b : Block}
    (h : foldBlocks C cs (bs ++ [b]) = .ok s) :
    ∃ s₀, foldBlocks C cs bs = .ok s₀ ∧ addBlockNoValidation C s₀ b = .ok s := by
  simpa only [foldBlocks_append, bind_ok_iff, foldBlocks_single] using h

theorem replayUtxo_cons_ok {u u' : Utxo} {b : Block} (h : utoApplyBlock C u b = .ok u') (rest : List Block) :
    replayUtxo C (b :: rest) u = replayUtxo C rest u' := by
  rw [replayUtxo, h]

theorem replayUtxo_snoc (l : List Block) (b : Block) (u : Utxo) :
    replayUtxo C (l ++ [b]) u =
      match replayUtxo C l u with
      | .error e => .error e
      | .ok u' => utoApplyBlock C u' b := by
  induction l generalizing u with
  | nil =>
    simp only [List.nil_append, replayUtxo]
    cases utoApplyBlock C u b <;> rfl
  | cons x rest ih =>
    simp only [List.cons_append, replayUtxo]
    cases utoApplyBlock C u x with
    | error e => rfl
    | ok u' => exact ih u'

/-- what `WFArrivals` gives, as facts about the members of the history. `ht` is what makes `bs.length` enough fuel for
`chainOf`: a block is lower than the history is long. -/
structure HistFacts (bs : List Block) : Prop where
  inj : ∀ x ∈ bs, ∀ y ∈ bs, x.id C = y.id C → x = y
  nz : ∀ x ∈ bs, x.id C ≠ zeros 32
  par : ∀ x ∈ bs, (x.prev = zeros 32 ∧ x.height = 0) ∨
    ∃ q ∈ bs, x.prev = q.id C ∧ x.height = q.height + 1
  ht : ∀ x ∈ bs, x.height < bs.length
  ne : bs ≠ []

theorem WFArrivals.facts {bs : List Block} (h : WFArrivals C bs) : HistFacts C bs := by
  induction h with
  | genesis g h1 h2 h3 =>
    refine ⟨?_, ?_, ?_, ?_, by simp⟩ <;> simp only [List.mem_singleton, forall_eq]
    · exact fun _ => trivial
    · exact h3
    · exact .inl ⟨h1, h2⟩
    · rw [h2]; exact Nat.zero_lt_one
  | snoc bs b p _ hp hprev hht hnz hfresh ih =>
    -- each clause: for the blocks of `bs`, then for `b`
    refine ⟨?_, ?_, ?_, ?_, by simp⟩ <;> simp only [List.forall_mem_append, List.forall_mem_singleton]
    · exact ⟨fun x hx => ⟨ih.inj x hx, fun e => absurd e (hfresh x hx)⟩,
        fun y hy e => absurd e.symm (hfresh y hy), fun _ => trivial⟩
    · exact ⟨ih.nz, hnz⟩
    · exact ⟨fun x hx => (ih.par x hx).imp_right fun ⟨q, hq, h⟩ => ⟨q, List.mem_append_left _ hq, h⟩,
        .inr ⟨p, List.mem_append_left _ hp, hprev, hht⟩⟩
    · rw [List.length_append, List.length_singleton]
      exact ⟨fun x hx => Nat.lt_succ_of_lt (ih.ht x hx), by have := ih.ht p hp; omega⟩

/-- in a well-formed history a block is a genesis block iff its parent reference is all zeros,
and otherwise its parent is in the history -/
theorem HistFacts.parent {bs : List Block} (F : HistFacts C bs) {x : Block} (hx : x ∈ bs)
    (hz : x.prev ≠ zeros 32) : ∃ q ∈ bs, x.prev = q.id C ∧ x.height = q.height + 1 := by
  rcases F.par x hx with h | h
  · exact absurd h.1 hz
  · exact h

theorem HistFacts.height_zero {bs : List Block} (F : HistFacts C bs) {x : Block} (hx : x ∈ bs)
    (h0 : x.height = 0) : x.prev = zeros 32 := by
  rcases F.par x hx with h | ⟨q, _, _, h⟩
  · exact h.1
  · omega

theorem findBlock_some {bs : List Block} {id : Bytes} {q : Block} (h : findBlock C bs id = some q) :
    q ∈ bs ∧ q.id C = id :=
  ⟨List.mem_of_find?_eq_some h, by simpa using List.find?_some h⟩

theorem findBlock_eq_none {bs : List Block} {id : Bytes} :
    findBlock C bs id = none ↔ ∀ c ∈ bs, c.id C ≠ id := by
  simp [findBlock]

theorem findBlock_of_mem {bs : List Block} (F : HistFacts C bs) {x : Block} (hx : x ∈ bs) :
    findBlock C bs (x.id C) = some x := by
  cases h : findBlock C bs (x.id C) with
  | none => exact absurd rfl ((findBlock_eq_none C).1 h x hx)
  | some y =>
    obtain ⟨h2, h1⟩ := findBlock_some C h
    rw [F.inj y h2 x hx h1]

theorem findBlock_eq_some {bs : List Block} (F : HistFacts C bs) {id : Bytes} {q : Block} :
    findBlock C bs id = some q ↔ q ∈ bs ∧ q.id C = id :=
  ⟨findBlock_some C, fun ⟨h, e⟩ => e ▸ findBlock_of_mem C F h⟩

theorem findBlock_append {bs : List Block} {id : Bytes} {q : Block} (l : List Block)
    (h : findBlock C bs id = some q) : findBlock C (bs ++ l) id = some q := by
  unfold findBlock at h ⊢
  rw [List.find?_append, h]
  rfl

theorem findBlock_snoc {bs : List Block} {x : Block} (hfresh : ∀ c ∈ bs, c.id C ≠ x.id C) (id : Bytes) :
    findBlock C (bs ++ [x]) id = if x.id C = id then some x else findBlock C bs id := by
  rw [findBlock, List.find?_append, ← findBlock, List.find?_singleton]
  by_cases h : x.id C = id
  · rw [← h, (findBlock_eq_none C).2 hfresh, if_pos rfl, if_pos (decide_eq_true rfl)]
    rfl
  · rw [if_neg h, if_neg (by simpa using h), Option.or_none]

theorem chainOf_succ {bs : List Block} (F : HistFacts C bs) (f : Nat) {x p : Block} (hp : p ∈ bs)
    (hprev : x.prev = p.id C) : chainOf C bs (f + 1) x = chainOf C bs f p ++ [x] := by
  simp only [chainOf, hprev, F.nz p hp, if_false, findBlock_of_mem C F hp]

theorem chainOf_genesis (bs : List Block) (f : Nat) {x : Block} (hz : x.prev = zeros 32) :
    chainOf C bs f x = [x] := by
  cases f <;> simp only [chainOf, hz, if_true]

/-- the chain of a block is the same in two histories in which equal ids mean equal blocks, whatever fuel covers its height -/
theorem chainOf_congr {ds ss : List Block} (Fd : HistFacts C ds) (Fs : HistFacts C ss)
    (hsame : ∀ a ∈ ds, ∀ b ∈ ss, a.id C = b.id C → a = b) (f₁ f₂ : Nat) {x : Block}
    (hxd : x ∈ ds) (hxs : x ∈ ss) (h₁ : x.height ≤ f₁) (h₂ : x.height ≤ f₂) :
    chainOf C ds f₁ x = chainOf C ss f₂ x := by
  induction f₁ generalizing f₂ x with
  | zero =>
    have hz := Fd.height_zero C hxd (by omega)
    rw [chainOf_genesis C ds 0 hz, chainOf_genesis C ss f₂ hz]
  | succ f₁ ih =>
    by_cases hz : x.prev = zeros 32
    · rw [chainOf_genesis C ds _ hz, chainOf_genesis C ss _ hz]
    · obtain ⟨q, hq, hqp, hh⟩ := Fd.parent C hxd hz
      obtain ⟨q', hq', hqp', -⟩ := Fs.parent C hxs hz
      obtain rfl : q = q' := hsame q hq q' hq' (hqp.symm.trans hqp')
      obtain ⟨f₂, rfl⟩ : ∃ f, f₂ = f + 1 := ⟨f₂ - 1, by omega⟩
      rw [chainOf_succ C Fd _ hq hqp, chainOf_succ C Fs _ hq' hqp, ih f₂ hq hq' (by omega) (by omega)]

theorem chainOf_fuel {bs : List Block} (F : HistFacts C bs) (f₁ f₂ : Nat) {x : Block}
    (hx : x ∈ bs) (h₁ : x.height ≤ f₁) (h₂ : x.height ≤ f₂) :
    chainOf C bs f₁ x = chainOf C bs f₂ x :=
  chainOf_congr C F F F.inj f₁ f₂ hx hx h₁ h₂

theorem chainOf_step {bs : List Block} (F : HistFacts C bs) {b p : Block} (hp : p ∈ bs) (hprev : b.prev = p.id C) :
    chainOf C bs bs.length b = chainOf C bs bs.length p ++ [b] := by
  have hpl := F.ht p hp
  obtain ⟨n, hn⟩ : ∃ n, bs.length = n + 1 := ⟨bs.length - 1, by omega⟩
  rw [hn, chainOf_succ C F n hp hprev, chainOf_fuel C F n (n + 1) hp (by omega) (by omega)]

theorem chainOf_same_len {ds ss : List Block} (Fd : HistFacts C ds) (Fs : HistFacts C ss)
    (hsame : ∀ a ∈ ds, ∀ b ∈ ss, a.id C = b.id C → a = b) {x : Block} (hxd : x ∈ ds)
    (hxs : x ∈ ss) : chainOf C ds ds.length x = chainOf C ss ss.length x :=
  chainOf_congr C Fd Fs hsame _ _ hxd hxs (Nat.le_of_lt (Fd.ht x hxd)) (Nat.le_of_lt (Fs.ht x hxs))

theorem chainOf_append {bs : List Block} (F : HistFacts C bs) (l : List Block)
    (F' : HistFacts C (bs ++ l)) {x : Block} (hx : x ∈ bs) :
    chainOf C (bs ++ l) (bs ++ l).length x = chainOf C bs bs.length x :=
  chainOf_same_len C F' F (fun a ha b hb e => F'.inj a ha b (List.mem_append_left _ hb) e)
    (List.mem_append_left _ hx) hx

theorem firstMax_snoc (bs : List Block) (b : Block) :
    firstMax (bs ++ [b]) = some
      (match firstMax bs with
      | none => b
      | some m => if b.height > m.height then b else m) := by
  induction bs with
  | nil => rfl
  | cons x rest ih =>
    simp only [List.cons_append, firstMax, ih]
    cases h : firstMax rest with
    | none => simp only; split <;> rfl
    | some m =>
      by_cases h1 : b.height > m.height <;> by_cases h2 : m.height > x.height <;>
        by_cases h3 : b.height > x.height <;> simp [h1, h2, h3] <;> omega

theorem firstMax_spec : ∀ (bs : List Block), bs ≠ [] →
    ∃ m, firstMax bs = some m ∧ m ∈ bs ∧ ∀ x ∈ bs, x.height ≤ m.height
  | [], h => absurd rfl h
  | [x], _ => ⟨x, rfl, List.mem_singleton.2 rfl, fun y hy => by rw [List.mem_singleton.1 hy]; exact Nat.le_refl _⟩
  | x :: y :: rest, _ => by
    obtain ⟨m, hm, hmem, hge⟩ := firstMax_spec (y :: rest) (List.cons_ne_nil _ _)
    rw [firstMax, hm]
    by_cases h : m.height > x.height
    · refine ⟨m, if_pos h, List.mem_cons_of_mem _ hmem, fun z hz => ?_⟩
      rcases List.mem_cons.1 hz with rfl | hz
      · omega
      · exact hge z hz
    · refine ⟨x, if_neg h, List.mem_cons_self, fun z hz => ?_⟩
      rcases List.mem_cons.1 hz with rfl | hz
      · exact Nat.le_refl _
      · have := hge z hz; omega

/-- `WFArrivals` as a computation, on the history with the newest block first -/
def wfArrivalsRev : List Block → Bool
  | [] => false
  | [g] => g.prev = zeros 32 && g.height = 0 && g.id C ≠ zeros 32
  | b :: p :: bs => wfArrivalsRev (p :: bs) && (p :: bs).any (fun q => b.prev = q.id C && b.height = q.height + 1) &&
      b.id C ≠ zeros 32 && (p :: bs).all (fun c => c.id C ≠ b.id C)

theorem wfArrivalsRev_sound : ∀ l, wfArrivalsRev C l = true → WFArrivals C l.reverse
  | [g], h => by
    simp only [wfArrivalsRev, Bool.and_eq_true, decide_eq_true_eq] at h
    exact .genesis g h.1.1 h.1.2 h.2
  | b :: p :: bs, h => by
    simp only [wfArrivalsRev, Bool.and_eq_true, List.any_eq_true, List.all_eq_true, decide_eq_true_eq] at h
    obtain ⟨⟨⟨hwf, q, hq, hprev, hh⟩, hz⟩, hall⟩ := h
    rw [List.reverse_cons]
    exact .snoc _ b q (wfArrivalsRev_sound (p :: bs) hwf) (List.mem_reverse.2 hq) hprev hh hz
      fun c hc => hall c (List.mem_reverse.1 hc)

theorem WFArrivals.of_decide {bs : List Block} (h : wfArrivalsRev C bs.reverse = true) : WFArrivals C bs :=
  bs.reverse_reverse ▸ wfArrivalsRev_sound C _ h

end Model
