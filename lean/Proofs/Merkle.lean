import Model.Spec

/-!
`pairUpNodes` halves the length, so fuel = length suffices; the node-level construction mirrors the hash-level one and
keeps the leaves in order; the shape of the tree depends on the number of entries only (`shape_merkleTree`), so for
lists of the same length the injectivity argument over trees (`C17.tree_hash_injective_or_shapes_differ`) never meets a leaf
opposite an inner node. Then `Collision.of_eq` / `append_collision` (an equality of hashes is an equality of inputs or a collision:
also what `Props/C06` imports this file for), and `Indexed`: inner nodes carry the index of their leftmost leaf, which is what
`getProof` needs (`getProof_mem`).
-/

namespace Model
namespace Merkle

variable (h : Bytes → Bytes)

theorem length_pairUp (l : List Bytes) : (pairUp h l).length = (l.length + 1) / 2 := by
  fun_induction pairUp h l <;> simp <;> omega

theorem length_pairUpNodes (l : List MNode) : (pairUpNodes l).length = (l.length + 1) / 2 := by
  fun_induction pairUpNodes l <;> simp <;> omega

theorem map_hash_pairUpNodes (ns : List MNode) :
    (pairUpNodes ns).map (MNode.hash h) = pairUp h (ns.map (MNode.hash h)) := by
  fun_induction pairUpNodes ns <;> simp [pairUp, MNode.hash, *]

theorem flatMap_leaves_pairUpNodes (ns : List MNode) :
    (pairUpNodes ns).flatMap MNode.leaves = ns.flatMap MNode.leaves := by
  fun_induction pairUpNodes ns <;> simp [MNode.leaves, *]

theorem rootFuel_singleton (f : Nat) (x : Bytes) : merkleRootFuel h (f + 1) [x] = some x := rfl

theorem rootFuel_cons_cons (f : Nat) (a b : Bytes) (rest : List Bytes) :
    merkleRootFuel h (f + 1) (a :: b :: rest) = merkleRootFuel h f (pairUp h (a :: b :: rest)) := rfl

theorem tree_root_fuel (f : Nat) (ns : List MNode) (hne : ns ≠ []) (hf : ns.length ≤ f) :
    ∃ t, merkleTreeFuel f ns = some t ∧
      merkleRootFuel h f (ns.map (MNode.hash h)) = some (t.hash h) ∧
      t.leaves = ns.flatMap MNode.leaves := by
  induction f generalizing ns with
  | zero => exact absurd (List.eq_nil_of_length_eq_zero (Nat.le_zero.mp hf)) hne
  | succ f ih =>
    match ns, hne, hf with
    | [x], _, _ => exact ⟨x, rfl, rootFuel_singleton h f _, (List.flatMap_singleton ..).symm⟩
    | a :: b :: rest, _, hf =>
      have hlen : (pairUpNodes (a :: b :: rest)).length ≤ f := by
        rw [length_pairUpNodes]; simp only [List.length_cons] at hf ⊢; omega
      obtain ⟨t, h1, h2, h3⟩ := ih (pairUpNodes (a :: b :: rest)) (by simp [pairUpNodes]) hlen
      rw [map_hash_pairUpNodes] at h2
      exact ⟨t, h1, (rootFuel_cons_cons h f ..).trans h2, by rw [h3, flatMap_leaves_pairUpNodes]⟩

theorem length_leavesFrom (i : Nat) (l : List Bytes) : (leavesFrom i l).length = l.length := by
  fun_induction leavesFrom i l with
  | case1 => rfl
  | case2 i v rest ih => simp [ih]

theorem map_hash_leavesFrom (i : Nat) (l : List Bytes) :
    (leavesFrom i l).map (MNode.hash h) = l := by
  fun_induction leavesFrom i l with
  | case1 => rfl
  | case2 i v rest ih => simp [MNode.hash, ih]

theorem flatMap_leaves_leavesFrom (i : Nat) (l : List Bytes) :
    (leavesFrom i l).flatMap MNode.leaves = (List.range' i l.length).zip l := by
  fun_induction leavesFrom i l with
  | case1 => rfl
  | case2 i v rest ih => simp [MNode.leaves, ih, List.range'_succ]

theorem tree_hash_eq_root (l : List Bytes) (hl : l ≠ []) :
    ∃ t, merkleTree l = some t ∧ merkleRoot h l = some (t.hash h) ∧
      t.leaves = (List.range l.length).zip l := by
  have hne : leavesFrom 0 l ≠ [] :=
    List.ne_nil_of_length_pos (by rw [length_leavesFrom]; exact List.length_pos_iff.mpr hl)
  obtain ⟨t, h1, h2, h3⟩ :=
    tree_root_fuel h l.length (leavesFrom 0 l) hne (by rw [length_leavesFrom]; exact Nat.le_refl _)
  refine ⟨t, h1, ?_, ?_⟩
  · rw [map_hash_leavesFrom] at h2; exact h2
  · rw [h3, flatMap_leaves_leavesFrom, List.range_eq_range']

theorem map_snd_range_zip (l : List Bytes) : ((List.range l.length).zip l).map (·.2) = l := by
  apply List.map_snd_zip
  simp

theorem leaf_value_mem (i : Nat) (v : Bytes) : v ∈ (MNode.leaf i v).leaves.map (·.2) :=
  List.mem_singleton.mpr rfl

theorem length_hash (hh : ∀ x, (h x).length = 32) (t : MNode)
    (hl : ∀ v ∈ t.leaves.map (·.2), v.length = 32) : (t.hash h).length = 32 := by
  cases t with
  | leaf i v => exact hl v (leaf_value_mem i v)
  | node i l r => exact hh _

theorem _root_.Model.Collision.of_eq {α β : Type} [DecidableEq α] {h : α → β} {x y : α} (he : h x = h y) :
    x = y ∨ Collision h :=
  if e : x = y then .inl e else .inr ⟨x, y, e, he⟩

theorem append_collision (a b a' b' : Bytes) (ha : a.length = a'.length)
    (he : h (a ++ b) = h (a' ++ b')) : (a = a' ∧ b = b') ∨ Collision h :=
  (Collision.of_eq he).imp_left (List.append_inj · ha)

/-- a tree with indices and values erased -/
def shape : MNode → MNode
  | .leaf _ _ => .leaf 0 []
  | .node _ l r => .node 0 (shape l) (shape r)

theorem index_shape (t : MNode) : (shape t).index = 0 := by cases t <;> rfl

theorem map_shape_pairUpNodes (ns : List MNode) :
    (pairUpNodes ns).map shape = pairUpNodes (ns.map shape) := by
  fun_induction pairUpNodes ns <;> simp [pairUpNodes, shape, index_shape, *]

theorem map_shape_treeFuel (f : Nat) (ns : List MNode) :
    (merkleTreeFuel f ns).map shape = merkleTreeFuel f (ns.map shape) := by
  -- the ends of `merkleTreeFuel`, here and below: 1 out of fuel, 2 a single node, 3 any other list (`hx`), paired up
  fun_induction merkleTreeFuel f ns with
  | case1 | case2 => rfl
  | case3 f ns hx ih =>
    rw [ih, map_shape_pairUpNodes, merkleTreeFuel.eq_3]
    intro x e
    obtain ⟨a, rfl, _⟩ := List.map_eq_singleton_iff.mp e
    exact hx a rfl

theorem map_shape_leavesFrom (i : Nat) (l : List Bytes) :
    (leavesFrom i l).map shape = List.replicate l.length (.leaf 0 []) := by
  fun_induction leavesFrom i l with
  | case1 => rfl
  | case2 i v rest ih => simp [shape, List.replicate_succ, ih]

/-- the shape of the tree depends on the number of entries only -/
theorem shape_merkleTree {l l' : List Bytes} {t t' : MNode} (hlen : l.length = l'.length)
    (ht : merkleTree l = some t) (ht' : merkleTree l' = some t') : shape t = shape t' := by
  have e := map_shape_treeFuel l.length (leavesFrom 0 l)
  have e' := map_shape_treeFuel l'.length (leavesFrom 0 l')
  rw [← merkleTree, ht, map_shape_leavesFrom] at e
  rw [← merkleTree, ht', map_shape_leavesFrom, ← hlen, ← e] at e'
  exact (Option.some.inj e').symm

/-- every inner node carries the index of its left child, hence of its leftmost leaf: all `getProof`
needs to find a leaf in a tree whose leaves are numbered in increasing order -/
def Indexed : MNode → Prop
  | .leaf _ _ => True
  | .node i l r => i = l.index ∧ Indexed l ∧ Indexed r

theorem Indexed.leaves {t : MNode} (ht : Indexed t) : ∃ v rest, t.leaves = (t.index, v) :: rest := by
  induction t with
  | leaf i v => exact ⟨v, [], rfl⟩
  | node i l r ihl _ =>
    obtain ⟨v, rest, e⟩ := ihl ht.2.1
    exact ⟨v, rest ++ r.leaves, by rw [MNode.leaves, e, ht.1]; rfl⟩

theorem indexed_pairUpNodes {ns : List MNode} (hn : ∀ n ∈ ns, Indexed n) :
    ∀ n ∈ pairUpNodes ns, Indexed n := by
  fun_induction pairUpNodes ns with
  | case1 a b rest ih =>
    simp only [List.mem_cons, forall_eq_or_imp] at hn ⊢
    exact ⟨⟨rfl, hn.1, hn.2.1⟩, ih hn.2.2⟩
  | case2 a => exact hn
  | case3 => exact hn

theorem indexed_tree_fuel (f : Nat) (ns : List MNode) (t : MNode) (hn : ∀ n ∈ ns, Indexed n)
    (ht : merkleTreeFuel f ns = some t) : Indexed t := by
  fun_induction merkleTreeFuel f ns with
  | case1 => cases ht
  | case2 _ x => cases ht; exact hn t (by simp)
  | case3 f ns _ ih => exact ih (indexed_pairUpNodes hn) ht

theorem indexed_leavesFrom (i : Nat) (l : List Bytes) : ∀ n ∈ leavesFrom i l, Indexed n := by
  fun_induction leavesFrom i l with
  | case1 => nofun
  | case2 i v rest ih => simpa [Indexed] using ih

theorem indexed_merkleTree (l : List Bytes) (t : MNode) (ht : merkleTree l = some t) : Indexed t :=
  indexed_tree_fuel _ _ t (indexed_leavesFrom 0 l) ht

theorem getProof_mem {t : MNode} (ht : Indexed t) (hs : t.leaves.Pairwise (·.1 < ·.1)) (i : Nat)
    (v : Bytes) (hm : (i, v) ∈ t.leaves) : (i, v) ∈ (getProof h t i).leaves := by
  induction t with
  | leaf j w => exact hm
  | node idx l r ihl ihr =>
    obtain ⟨_, hl, hr⟩ := ht
    obtain ⟨w, rest, er⟩ := hr.leaves
    simp only [MNode.leaves, List.pairwise_append, List.mem_append] at hs hm
    obtain ⟨sl, sr, slr⟩ := hs
    unfold getProof
    split <;> rename_i hi <;> simp only [MNode.leaves, List.mem_append]
    · refine hm.elim (fun hm => ?_) fun hm => .inr (ihr hr sr hm)
      have := slr _ hm (r.index, w) (by simp [er]); omega
    · refine hm.elim (fun hm => .inl (ihl hl sl hm)) fun hm => ?_
      rw [er, List.mem_cons] at hm
      rcases hm with hm | hm
      · cases hm; omega
      · have := (List.pairwise_cons.mp (er ▸ sr)).1 _ hm; omega

end Merkle
end Model
