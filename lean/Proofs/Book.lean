import Model.PeerBook
import Proofs.Map

namespace Model

namespace Book

/-! Every event is a sequence of the seven updates below, each with the facts that hold when the model
performs it. An invariant is checked against these once (`Stable`); that it then holds after every
event and every history is `Stable.apply` / `Stable.run`. `G` says which connections may be greeted
(`C19.GInv` is about histories without a greeting from one particular key). Each update changes the two
maps under one key at most (`Map.Upd`); what an invariant needs of such a change is said once, in its
`update` lemma. Then the invariants proved that way: `Disj` (no key in both maps), `LastInv` (the
`lastAttempt` fields are the log, the log is `Spaced`), `SelfInv` (an own address is never dialled); after
`end Book` the facts about the peers file, `writePeers_*`. -/

inductive Micro (P : Params) (G : PeerKey → Prop) : Book → Book → Prop
  /-- `handle_peer_disconnected`: the key leaves `connected_peers`; an outgoing one goes back to the disconnected ones, one
  failure more on its count unless it had greeted -/
  | drop {b : Book} {k : PeerKey} {p : ConnPeer} (hp : b.connected.get? k = some p) :
      Micro P G b { b with connected := b.connected.erase k,
                           disconnected := if k.outgoing then b.disconnected.set k
                             ⟨p.lastAttempt, if p.helloReceived then p.banScore else p.banScore + 1⟩
                             else b.disconnected }
  /-- `handle_peer_connected` for an incoming connection (after a duplicate, if any, was dropped), with the serial of the
  new connection object -/
  | accept (b : Book) (host : String) (port s : Nat) :
      Micro P G b { b with connected := b.connected.set ⟨host, port, false⟩ ⟨none, 0, false, true, s⟩,
                           disconnected := b.disconnected.erase ⟨host, port, false⟩ }
  /-- a new connection object was made (the counter behind `ConnPeer.serial`); no invariant here reads `nextSerial`, so
  any value may be written -/
  | tick (b : Book) (n : Nat) : Micro P G b { b with nextSerial := n }
  /-- `handle_hello_message_received`: greeted, failure count back to 0 -/
  | greet {b : Book} {k : PeerKey} {p : ConnPeer} (hp : b.connected.get? k = some p) (hG : G k) :
      Micro P G b { b with connected := b.connected.set k { p with helloReceived := true, banScore := 0 } }
  /-- a hello carrying this node's own nonce on an outgoing connection: the address is recorded as one of its own -/
  | mine {b : Book} {k : PeerKey} {p : ConnPeer} (hp : b.connected.get? k = some p) (hout : k.outgoing = true) :
      Micro P G b { b with myAddresses := (k.host, k.port) :: b.myAddresses }
  /-- the `elif key not in nm.connected_peers` branch of `handle_hello_message_received` (incoming) and of
  `handle_peers_message_received`: an address in neither map enters the disconnected ones, never tried -/
  | learn {b : Book} {host : String} {port : Nat} (hd : b.disconnected.contains ⟨host, port, true⟩ = false)
      (hc : b.connected.contains ⟨host, port, true⟩ = false) :
      Micro P G b { b with disconnected := b.disconnected.set ⟨host, port, true⟩ ⟨none, 0⟩ }
  /-- one pass of the loop of `NetworkManager.step` that connects: `is_time_to_connect` held, the attempt is logged, then
  `start_outgoing_connection` -/
  | dial {b : Book} {k : PeerKey} {d : DiscPeer} {now : Int} (hd : b.disconnected.get? k = some d)
      (hout : k.outgoing = true) (hmine : (k.host, k.port) ∉ b.myAddresses)
      (htime : isTimeToConnect P d.banScore d.lastAttempt now = true) :
      Micro P G b (Book.startOutgoing
        { b with disconnected := b.disconnected.set k { d with lastAttempt := some now },
                 attempts := (k, now, d.banScore) :: b.attempts } k { d with lastAttempt := some now })

/-- `I` is kept by every elementary update -/
def Stable (P : Params) (G : PeerKey → Prop) (I : Book → Prop) : Prop :=
  ∀ b b', Micro P G b b' → I b → I b'

theorem peerDisconnected_eq (b : Book) (k : PeerKey) (p : ConnPeer) :
    b.peerDisconnected k p =
      { b with connected := b.connected.erase k,
               disconnected := if k.outgoing then b.disconnected.set k
                 ⟨p.lastAttempt, if p.helloReceived then p.banScore else p.banScore + 1⟩
                 else b.disconnected } := by
  unfold peerDisconnected
  cases k.outgoing <;> rfl

theorem disconnect_cases {I : Book → Prop} {b : Book} (k : PeerKey) (s : Nat) (h : I b)
    (hdrop : ∀ p, b.connected.get? k = some p → I (b.peerDisconnected k p)) : I (b.disconnect k s) := by
  unfold Book.disconnect
  split
  · split
    · exact hdrop _ ‹_›
    · exact h
  · exact h

theorem disconnect_eq {b : Book} {k : PeerKey} {p : ConnPeer} (hg : b.connected.get? k = some p)
    (hr : p.registered = true) : b.disconnect k p.serial = b.peerDisconnected k p := by
  simp only [Book.disconnect, hg, hr, decide_true, Bool.and_self, ↓reduceIte]

namespace Stable
variable {P : Params} {G : PeerKey → Prop} {I : Book → Prop} (hI : Stable P G I)
include hI

theorem disconnect {b : Book} (h : I b) (k : PeerKey) (s : Nat) : I (b.disconnect k s) :=
  disconnect_cases k s h fun p hp => peerDisconnected_eq b k p ▸ hI _ _ (.drop hp) h

theorem announce {b : Book} (h : I b) (host : String) (port : Nat) : I (b.announce host port) := by
  -- the address is 1 among the disconnected, 2 among the connected, 3 in neither (learnt)
  fun_cases Book.announce b host port
  · exact h
  · exact h
  · next h1 h2 => exact hI _ _ (.learn (Bool.eq_false_iff.mpr h1) (Bool.eq_false_iff.mpr h2)) h

theorem announces (l : List (String × Nat)) {b : Book} (h : I b) :
    I (l.foldl (fun b (x : String × Nat) => b.announce x.1 x.2) b) := by
  induction l generalizing b with
  | nil => exact h
  | cons x rest ih => exact ih (hI.announce h _ _)

theorem stepPeers (now : Int) (l : List (PeerKey × DiscPeer)) {b : Book} (h : I b) :
    I (Book.stepPeers P now b l) := by
  -- the ends of one pass of the loop: 2 the key is gone, 3 the peer is dialled (`hguard`), 4 it is not
  fun_induction Book.stepPeers P now b l with
  | case1 => exact h
  | case3 b k _ rest d hd hguard _ _ ih =>
    simp only [Bool.and_eq_true, Bool.not_eq_true', List.contains_eq_mem, decide_eq_false_iff_not] at hguard
    exact ih (hI _ _ (.dial hd hguard.1.1 hguard.1.2 hguard.2) h)
  | case2 | case4 => rename_i ih; exact ih h

theorem apply {b : Book} (h : I b) (ev : BookEvent) (hG : ∀ k mine port, ev = .hello k mine port → G k) :
    I (Book.apply P b ev) := by
  -- the ends of `Book.apply`, each a sequence of elementary updates: 1 a step, 2 an incoming connection; of a greeting: 3 nothing
  -- is recorded under the key, 4 an incoming connection, 5 an outgoing one with the node's own nonce, 6 any other outgoing one;
  -- 7 a peers message; of a close: 8 nothing is recorded under the key, 9 the connection is dropped
  fun_cases Book.apply P b ev with
  | case1 now => exact hI.stepPeers _ _ h
  | case2 host port =>
    have h1 := hI _ _ (.tick b (b.nextSerial + 1)) h
    refine hI _ _ (.accept _ host port b.nextSerial) ?_
    split
    · exact hI.disconnect h1 _ _
    · exact h1
  | case4 k mine myPort p hp => exact hI.announce (hI _ _ (.greet hp (hG k mine myPort rfl)) h) _ _
  | case5 k myPort p hp _ _ hout =>
    have h1 := hI _ _ (.greet hp (hG k true myPort rfl)) h
    exact hI.disconnect (hI _ _ (.mine (Map.get?_set_self _ _ _) (by simpa using hout)) h1) _ _
  | case6 k mine myPort p hp => exact hI _ _ (.greet hp (hG k mine myPort rfl)) h
  | case7 l => exact hI.announces l h
  | case9 => exact hI.disconnect h _ _
  | case3 | case8 => exact h

theorem run {b : Book} (h : I b) (evs : List BookEvent)
    (hG : ∀ ev ∈ evs, ∀ k mine port, ev = .hello k mine port → G k) : I (Book.run P b evs) := by
  induction evs generalizing b with
  | nil => exact h
  | cons ev rest ih =>
    exact ih (hI.apply h ev (hG ev List.mem_cons_self)) fun ev' hev' => hG ev' (List.mem_cons_of_mem _ hev')

end Stable

/-- `run` when every connection may be greeted -/
theorem Stable.run' {I : Book → Prop} {P : Params} (hI : Stable P (fun _ => True) I) {b : Book} (h : I b)
    (evs : List BookEvent) : I (Book.run P b evs) :=
  hI.run h evs fun _ _ _ _ _ _ => trivial

theorem disconnect_keeps_log_addrs (b : Book) (k : PeerKey) (s : Nat) :
    (b.disconnect k s).attempts = b.attempts ∧ (b.disconnect k s).myAddresses = b.myAddresses :=
  disconnect_cases (I := fun b' => b'.attempts = b.attempts ∧ b'.myAddresses = b.myAddresses) k s ⟨rfl, rfl⟩
    fun p _ => peerDisconnected_eq b k p ▸ ⟨rfl, rfl⟩

theorem peerConnected_keeps_log_addrs (b : Book) (k : PeerKey) (p : ConnPeer) :
    (b.peerConnected k p).attempts = b.attempts ∧ (b.peerConnected k p).myAddresses = b.myAddresses := by
  unfold peerConnected
  split
  · exact disconnect_keeps_log_addrs _ _ _
  · exact ⟨rfl, rfl⟩

theorem startOutgoing_keeps_log_addrs (b : Book) (k : PeerKey) (d : DiscPeer) :
    (b.startOutgoing k d).attempts = b.attempts ∧ (b.startOutgoing k d).myAddresses = b.myAddresses :=
  peerConnected_keeps_log_addrs _ k _

theorem connected_announce (b : Book) (h : String) (p : Nat) : (b.announce h p).connected = b.connected := by
  fun_cases Book.announce b h p <;> rfl

theorem announce_keeps_log_addrs (b : Book) (h : String) (p : Nat) :
    (b.announce h p).attempts = b.attempts ∧ (b.announce h p).myAddresses = b.myAddresses := by
  fun_cases Book.announce b h p <;> exact ⟨rfl, rfl⟩

theorem apply_peers_eq (P : Params) (b : Book) (l : List (String × Nat)) :
    Book.apply P b (.peers l) = l.foldl (fun b (x : String × Nat) => b.announce x.1 x.2) b := rfl

theorem foldl_announce_keeps_log_addrs (l : List (String × Nat)) (b : Book) :
    (l.foldl (fun b (x : String × Nat) => b.announce x.1 x.2) b).attempts = b.attempts ∧
      (l.foldl (fun b (x : String × Nat) => b.announce x.1 x.2) b).myAddresses = b.myAddresses := by
  induction l generalizing b with
  | nil => exact ⟨rfl, rfl⟩
  | cons x rest ih =>
    rw [List.foldl_cons, (ih _).1, (ih _).2]
    exact announce_keeps_log_addrs b x.1 x.2

theorem dial_eq {b : Book} {k : PeerKey} (d : DiscPeer) (now : Int) (hc : b.connected.get? k = none) :
    Book.startOutgoing
      { b with disconnected := b.disconnected.set k { d with lastAttempt := some now },
               attempts := (k, now, d.banScore) :: b.attempts } k { d with lastAttempt := some now } =
    { b with connected := b.connected.set k ⟨some now, d.banScore, false, true, b.nextSerial⟩,
             disconnected := b.disconnected.erase k,
             attempts := (k, now, d.banScore) :: b.attempts, nextSerial := b.nextSerial + 1 } := by
  simp only [Book.startOutgoing, Book.peerConnected, hc, Map.erase_set_self]

/-- no key is both connected and disconnected -/
def Disj (b : Book) : Prop := ∀ k, b.connected.contains k = true → b.disconnected.contains k = false

theorem Disj.not_connected {b : Book} (h : Disj b) {k : PeerKey} {d : DiscPeer}
    (hd : b.disconnected.get? k = some d) : b.connected.get? k = none := by
  rw [← Map.contains_eq_false_iff, Bool.eq_false_iff]
  intro hc
  have := h k hc
  rw [Map.contains_of_get? _ _ _ hd] at this
  cases this

theorem Disj.update {b b' : Book} (h : Disj b) {k : PeerKey} {c : Option ConnPeer} {d : Option DiscPeer}
    (hc : Map.Upd k c b.connected b'.connected) (hd : Map.Upd k d b.disconnected b'.disconnected)
    (hcd : c = none ∨ d = none) : Disj b' := by
  intro k' hk'
  unfold Map.contains at hk' ⊢
  by_cases e : k' = k
  · subst e
    rw [hc.self] at hk'
    rw [hd.self]
    rcases hcd with rfl | rfl
    · cases hk'
    · rfl
  · rw [hc.other k' e] at hk'
    rw [hd.other k' e]
    exact h k' hk'

theorem Disj.attempt {b : Book} (h : Disj b) (k : PeerKey) (d : DiscPeer) (now : Int)
    (hd : b.disconnected.get? k = some d) :
    Disj (Book.startOutgoing
      { b with disconnected := b.disconnected.set k { d with lastAttempt := some now },
               attempts := (k, now, d.banScore) :: b.attempts } k { d with lastAttempt := some now }) := by
  rw [dial_eq d now (h.not_connected hd)]
  exact h.update (.set ..) (.erase ..) (.inr rfl)

theorem Disj.stable (P : Params) (G : PeerKey → Prop) : Stable P G Disj := by
  intro b b' hm h
  cases hm with
  | drop hp => exact h.update (.erase ..) (.ite (.set ..) (.refl ..)) (.inl rfl)
  | accept host port s => exact h.update (.set ..) (.erase ..) (.inr rfl)
  | tick n => exact h
  | greet hp _ =>
    exact h.update (.set ..) (.refl ..) (.inr ((Map.contains_eq_false_iff _ _).1 (h _ (Map.contains_of_get? _ _ _ hp))))
  | mine _ _ => exact h
  | learn hd hc => exact h.update (.refl ..) (.set ..) (.inl ((Map.contains_eq_false_iff _ _).1 hc))
  | dial hd _ _ _ => exact h.attempt _ _ _ hd

theorem Disj.disconnect {b : Book} (h : Disj b) (k : PeerKey) (s : Nat) : Disj (b.disconnect k s) :=
  disconnect_cases k s h fun p _ => peerDisconnected_eq b k p ▸ h.update (.erase ..) (.ite (.set ..) (.refl ..)) (.inl rfl)

theorem Disj.peerConnected {b : Book} (h : Disj b) (k : PeerKey) (p : ConnPeer) :
    Disj (b.peerConnected k p) := by
  refine Disj.update ?_ (.set ..) (.erase ..) (.inr rfl)
  split
  · exact h.disconnect _ _
  · exact h

theorem Disj.of_connected_nil {b : Book} (h : b.connected = []) : Disj b := by
  intro k hk
  rw [h] at hk
  cases hk

theorem Disj.not_insane {b : Book} (h : Disj b) : b.insane = false := by
  simp only [Book.insane, List.any_eq_false]
  intro k hk
  rw [h k ((Map.mem_keys_iff_contains _ _).1 hk)]
  simp

/-- the time of the most recent logged attempt to `k`, if any -/
def lastAtt (log : List (PeerKey × Int × Nat)) (k : PeerKey) : Option Int :=
  (log.find? (·.1 = k)).map (·.2.1)

@[simp] theorem lastAtt_nil (k : PeerKey) : lastAtt [] k = none := rfl

theorem lastAtt_cons (k' : PeerKey) (t : Int) (ban : Nat) (l : List (PeerKey × Int × Nat)) (k : PeerKey) :
    lastAtt ((k', t, ban) :: l) k = if k' = k then some t else lastAtt l k := by
  unfold lastAtt
  by_cases h : k' = k <;> simp [h]

/-- every logged attempt is to an outgoing key, within the failure limit, and far enough after
the previous attempt to the same key -/
def Spaced (P : Params) : List (PeerKey × Int × Nat) → Prop
  | [] => True
  | (k, t₂, ban) :: older =>
    (ban ≤ P.maxConnectionAttempts ∧ k.outgoing = true ∧
      ∀ t₁, lastAtt older k = some t₁ →
        t₂ - t₁ ≥ (min (P.timeToSecondAttempt * 2 ^ ban) P.maxTimeBetweenAttempts : Nat)) ∧
    Spaced P older

theorem Spaced.split {P : Params} {l : List (PeerKey × Int × Nat)} (h : Spaced P l)
    (newer older : List (PeerKey × Int × Nat)) (k : PeerKey) (t₂ : Int) (ban : Nat)
    (hl : l = newer ++ (k, t₂, ban) :: older) :
    ban ≤ P.maxConnectionAttempts ∧ k.outgoing = true ∧
      ∀ t₁, lastAtt older k = some t₁ →
        t₂ - t₁ ≥ (min (P.timeToSecondAttempt * 2 ^ ban) P.maxTimeBetweenAttempts : Nat) := by
  induction newer generalizing l with
  | nil =>
    subst hl
    exact h.1
  | cons e rest ih =>
    subst hl
    exact ih h.2 rfl

theorem Spaced.lastAtt_incoming {P : Params} {l : List (PeerKey × Int × Nat)} (h : Spaced P l)
    (k : PeerKey) (hk : k.outgoing = false) : lastAtt l k = none := by
  unfold lastAtt
  rw [Option.map_eq_none_iff, List.find?_eq_none]
  intro ⟨k', t, ban⟩ he hek
  obtain ⟨newer, older, rfl⟩ := List.append_of_mem he
  have hout := (h.split newer older k' t ban rfl).2.1
  have e : k' = k := of_decide_eq_true hek
  rw [e, hk] at hout
  cases hout

theorem isTimeToConnect_true {P : Params} {ban : Nat} {la : Option Int} {now : Int}
    (h : isTimeToConnect P ban la now = true) :
    ban ≤ P.maxConnectionAttempts ∧
      ∀ t, la = some t → now - t ≥ (min (P.timeToSecondAttempt * 2 ^ ban) P.maxTimeBetweenAttempts : Nat) := by
  unfold isTimeToConnect at h
  split at h
  · exact absurd h (by simp)
  · next hb =>
    refine ⟨by omega, ?_⟩
    intro t ht
    subst ht
    simpa using h

/-- the per-peer `lastAttempt` fields agree with the log, the log is spaced, and every logged
key is still known -/
structure LastInv (P : Params) (b : Book) : Prop where
  disj : Disj b
  spaced : Spaced P b.attempts
  conn : ∀ k p, b.connected.get? k = some p → p.lastAttempt = lastAtt b.attempts k
  disc : ∀ k d, b.disconnected.get? k = some d → d.lastAttempt = lastAtt b.attempts k
  known : ∀ k, b.connected.get? k = none → b.disconnected.get? k = none → lastAtt b.attempts k = none

variable {P : Params}

theorem LastInv.update {b b' : Book} (h : LastInv P b) (hdisj : Disj b') {k : PeerKey} {c : Option ConnPeer}
    {d : Option DiscPeer} (hc : Map.Upd k c b.connected b'.connected)
    (hd : Map.Upd k d b.disconnected b'.disconnected) (hs : Spaced P b'.attempts)
    (hl : ∀ k', k' ≠ k → lastAtt b'.attempts k' = lastAtt b.attempts k')
    (hck : ∀ p, c = some p → p.lastAttempt = lastAtt b'.attempts k)
    (hdk : ∀ q, d = some q → q.lastAttempt = lastAtt b'.attempts k)
    (hnk : c = none → d = none → lastAtt b'.attempts k = none) : LastInv P b' := by
  refine ⟨hdisj, hs, fun k' p hp => ?_, fun k' q hq => ?_, fun k' hc' hd' => ?_⟩ <;> by_cases e : k' = k
  · subst e; exact hck p (hc.self.symm.trans hp)
  · rw [hl k' e]; exact h.conn k' p ((hc.other k' e).symm.trans hp)
  · subst e; exact hdk q (hd.self.symm.trans hq)
  · rw [hl k' e]; exact h.disc k' q ((hd.other k' e).symm.trans hq)
  · subst e; exact hnk (hc.self.symm.trans hc') (hd.self.symm.trans hd')
  · rw [hl k' e]; exact h.known k' ((hc.other k' e).symm.trans hc') ((hd.other k' e).symm.trans hd')

/-- one connection attempt of `NetworkManager.step` -/
theorem LastInv.attempt {P : Params} {b : Book} (h : LastInv P b) (k : PeerKey) (d : DiscPeer) (now : Int)
    (hd : b.disconnected.get? k = some d) (hout : k.outgoing = true)
    (htime : isTimeToConnect P d.banScore d.lastAttempt now = true) :
    LastInv P (Book.startOutgoing
      { b with disconnected := b.disconnected.set k { d with lastAttempt := some now },
               attempts := (k, now, d.banScore) :: b.attempts } k { d with lastAttempt := some now }) := by
  obtain ⟨hban, htm⟩ := isTimeToConnect_true htime
  have hdisj := h.disj.attempt k d now hd
  rw [dial_eq d now (h.disj.not_connected hd)] at hdisj ⊢
  refine h.update hdisj (.set ..) (.erase ..) (hs := ⟨⟨hban, hout, fun t₁ ht₁ => htm t₁ ?_⟩, h.spaced⟩)
    (hl := fun k' e => ?_) (hck := fun _ hp => ?_) (hdk := nofun) (hnk := nofun)
  · rw [h.disc k d hd]; exact ht₁
  · exact (lastAtt_cons ..).trans (if_neg (Ne.symm e))
  · cases hp; exact ((lastAtt_cons ..).trans (if_pos rfl)).symm

theorem LastInv.stable (P : Params) (G : PeerKey → Prop) : Stable P G (LastInv P) := by
  intro b b' hm h
  have hdisj := Disj.stable P G _ _ hm h.disj
  cases hm with
  | @drop k p hp =>
    -- an outgoing key waits with the connection's `lastAttempt`; an incoming one was never tried
    refine h.update hdisj (.erase ..) (.ite (.set ..) (.refl ..)) (hs := h.spaced) (hl := fun _ _ => rfl) (hck := nofun)
      (hdk := fun q hq => ?_) (hnk := fun _ hq => ?_)
    · split at hq
      · cases hq; exact h.conn k p hp
      · exact h.disc k q hq
    · split at hq
      · cases hq
      · next ho => exact h.spaced.lastAtt_incoming k (by simpa using ho)
  | accept host port s =>
    refine h.update hdisj (.set ..) (.erase ..) (hs := h.spaced) (hl := fun _ _ => rfl) (hck := fun _ hp => ?_)
      (hdk := nofun) (hnk := nofun)
    cases hp; exact (h.spaced.lastAtt_incoming _ rfl).symm
  | tick n => exact ⟨h.disj, h.spaced, h.conn, h.disc, h.known⟩
  | @greet k p hp _ =>
    -- the entry is overwritten without touching its `lastAttempt`
    refine h.update hdisj (.set ..) (.refl ..) (hs := h.spaced) (hl := fun _ _ => rfl) (hck := fun _ hq => ?_)
      (hdk := h.disc k) (hnk := nofun)
    cases hq; exact h.conn k p hp
  | mine _ _ => exact ⟨h.disj, h.spaced, h.conn, h.disc, h.known⟩
  | @learn host port hd hc =>
    -- a key that is in neither map, so never tried, enters the disconnected one
    refine h.update hdisj (.refl ..) (.set ..) (hs := h.spaced) (hl := fun _ _ => rfl) (hck := h.conn _)
      (hdk := fun _ hq => ?_) (hnk := nofun)
    cases hq
    exact (h.known _ ((Map.contains_eq_false_iff _ _).1 hc) ((Map.contains_eq_false_iff _ _).1 hd)).symm
  | dial hd hout _ htime => exact h.attempt _ _ _ hd hout htime

theorem LastInv.disconnect {P : Params} {b : Book} (h : LastInv P b) (k : PeerKey) (s : Nat) :
    LastInv P (b.disconnect k s) :=
  (LastInv.stable P fun _ => True).disconnect h k s

theorem LastInv.of_fresh {b : Book} (hc : b.connected = []) (ha : b.attempts = [])
    (hd : ∀ k d, b.disconnected.get? k = some d → d.lastAttempt = none) : LastInv P b := by
  refine ⟨Disj.of_connected_nil hc, ?_, ?_, ?_, ?_⟩
  · rw [ha]; trivial
  · intro k p hp; rw [hc] at hp; exact absurd hp (by simp)
  · intro k d hk; rw [ha]; exact hd k d hk
  · intro k _ _; rw [ha]; rfl

/-- `k`'s address is recorded as own and the logged attempts to `k` are exactly `L` -/
def SelfInv' (k : PeerKey) (L : List (PeerKey × Int × Nat)) (b : Book) : Prop :=
  (k.host, k.port) ∈ b.myAddresses ∧ b.attempts.filter (fun e => decide (e.1 = k)) = L

theorem SelfInv'.stable (P : Params) (G : PeerKey → Prop) (k : PeerKey) (L : List (PeerKey × Int × Nat)) :
    Stable P G (SelfInv' k L) := by
  intro b b' hm h
  cases hm with
  | drop hp => exact h
  | accept host port s => exact h
  | tick n => exact h
  | greet hp _ => exact h
  | mine _ _ => exact ⟨List.mem_cons_of_mem _ h.1, h.2⟩
  | learn hd hc => exact h
  | @dial k' d now hd _ hmine _ =>
    unfold SelfInv'
    rw [(startOutgoing_keeps_log_addrs ..).1, (startOutgoing_keeps_log_addrs ..).2]
    have hne : ¬ k' = k := fun e => hmine (e ▸ h.1)
    exact ⟨h.1, (List.filter_cons_of_neg (by simpa using hne)).trans h.2⟩

/-- `(host, port)` of `k` is a recorded own address and the log has no attempt to `k` -/
def SelfInv (k : PeerKey) (b : Book) : Prop :=
  (k.host, k.port) ∈ b.myAddresses ∧ ∀ e ∈ b.attempts, e.1 ≠ k

theorem SelfInv.iff (k : PeerKey) (b : Book) : SelfInv k b ↔ SelfInv' k [] b := by
  simp [SelfInv, SelfInv', List.filter_eq_nil_iff]

theorem SelfInv.run {k : PeerKey} (P : Params) (evs : List BookEvent) {b : Book} (h : SelfInv k b) :
    SelfInv k (Book.run P b evs) :=
  (SelfInv.iff k _).2 ((SelfInv'.stable P _ k []).run' ((SelfInv.iff k b).1 h) evs)

end Book

theorem writePeers_length (P : Params) (old : List (PeerKey × String)) (k : PeerKey) (stamp : String) :
    (writePeersContent P old k stamp).length ≤ P.peersFileMax :=
  List.length_take_le _ _

theorem writePeers_nodup (P : Params) (old : List (PeerKey × String)) (k : PeerKey) (stamp : String)
    (hnd : (old.map (·.1)).Nodup) : ((writePeersContent P old k stamp).map (·.1)).Nodup := by
  unfold writePeersContent
  rw [List.map_take]
  apply List.Nodup.sublist (List.take_sublist _ _)
  rw [List.map_cons, List.nodup_cons]
  refine ⟨?_, ?_⟩
  · intro hmem
    obtain ⟨e, he, hek⟩ := List.mem_map.1 hmem
    exact of_decide_eq_true (List.mem_filter.1 he).2 hek
  · exact List.Nodup.sublist (List.Sublist.map _ List.filter_sublist) hnd

theorem writePeers_head (P : Params) (old : List (PeerKey × String)) (k : PeerKey) (stamp : String)
    (h : 0 < P.peersFileMax) : (writePeersContent P old k stamp).head? = some (k, stamp) := by
  unfold writePeersContent
  obtain ⟨m, hm⟩ : ∃ m, P.peersFileMax = m + 1 := ⟨P.peersFileMax - 1, by omega⟩
  rw [hm, List.take_succ_cons]
  rfl

end Model
