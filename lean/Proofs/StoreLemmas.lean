import Model.Store

/-! Lemmas about the relational block store of `Model.Store`: what a sequence of flushes of a
history without shared transaction ids leaves in the tables, and what `Store.read` makes of it.
In front of them, the facts about lists keyed by a component that the tables need. The lemmas about the store are declared in
`StoreL`; `Props/C08.lean` uses them under that prefix and declares its example blocks in `StoreL.Ex`. -/

namespace Model

theorem find?_of_nodup_fst {α β : Type} [DecidableEq α] (l : List (α × β)) (a : α) (b : β)
    (hn : (l.map (·.1)).Nodup) (hm : (a, b) ∈ l) :
    l.find? (fun x => decide (x.1 = a)) = some (a, b) := by
  induction l with
  | nil => cases hm
  | cons p t ih =>
    obtain ⟨a', b'⟩ := p
    simp only [List.map_cons, List.nodup_cons] at hn
    by_cases h : a' = a
    · subst h
      rcases List.mem_cons.1 hm with h | h
      · simp [← h]
      · exact absurd (List.mem_map.2 ⟨_, h, rfl⟩) hn.1
    · rcases List.mem_cons.1 hm with h' | h'
      · exact absurd (congrArg Prod.fst h').symm h
      · simp [h, ih hn.2 h']

theorem any_key_eq_false {α κ : Type} [DecidableEq κ] (key : α → κ) (l : List α) (k : κ) (rest : List κ)
    (hn : (l.map key ++ k :: rest).Nodup) : l.any (fun y => decide (key y = k)) = false := by
  rw [List.any_eq_false]
  intro y hy hyk
  exact (List.nodup_append.1 hn).2.2 (key y) (List.mem_map_of_mem hy) k List.mem_cons_self (by simpa using hyk)

theorem foldl_insert_fresh {α β γ : Type} [DecidableEq α] (key : γ → α) (val : γ → β)
    (xs : List γ) (l : List (α × β)) (hn : (l.map (·.1) ++ xs.map key).Nodup) :
    xs.foldl (fun l t => if l.any (fun x => decide (x.1 = key t)) then l else l ++ [(key t, val t)]) l
      = l ++ xs.map (fun t => (key t, val t)) := by
  induction xs generalizing l with
  | nil => simp
  | cons x xs ih =>
    rw [List.foldl_cons, any_key_eq_false (·.1) l (key x) _ hn, if_neg Bool.false_ne_true, ih]
    · simp
    · simpa using hn

theorem filterMap_eq_map_of_forall {α β : Type} (f : α → Option β) (g : α → β) (l : List α)
    (h : ∀ x ∈ l, f x = some (g x)) : l.filterMap f = l.map g := by
  induction l with
  | nil => rfl
  | cons x t ih =>
    rw [List.filterMap_cons, h x (by simp)]
    simp [ih (fun y hy => h y (List.mem_cons_of_mem _ hy))]

namespace StoreL

variable (C : Crypto)

/-- the row of `b` in the table `chain` -/
def rowOf (b : Block) : ChainRow := ⟨b.id C, b.header⟩
/-- the keys under which the transactions of `b` are stored -/
def hashesOf (b : Block) : List Bytes := b.txs.map fun t => C.sha256d (encTx t.tx)

/-- the rows of `b` in a table keyed by transaction hash -/
def rowsOf {β : Type} (val : Block → CTx → β) (b : Block) : List (Bytes × β) :=
  b.txs.map fun t => (C.sha256d (encTx t.tx), val b t)

/-- the rows of a block in `transaction_locator` -/
abbrev locOf : Block → List (Bytes × Bytes) := rowsOf C fun b _ => b.id C
/-- the rows of a block in the inputs and outputs tables -/
abbrev contOf : Block → List (Bytes × Tx) := rowsOf C fun _ t => t.tx

/-- the store after the blocks `w` were written in this order, no transaction open -/
def storeOf (w : List Block) : Store :=
  ⟨w.map (rowOf C), w.flatMap (locOf C), w.flatMap (contOf C), false⟩

theorem flatMap_rowsOf_fst {β : Type} (val : Block → CTx → β) (w : List Block) :
    (w.flatMap (rowsOf C val)).map (·.1) = w.flatMap (hashesOf C) := by
  induction w with
  | nil => rfl
  | cons b t ih => simp [List.flatMap_cons, rowsOf, hashesOf, ih, Function.comp_def]

/-- `ins` is `insertLocator` or `insertContent`, given by its two equations -/
theorem insertRows_fresh {β : Type} (val : Block → CTx → β)
    (ins : List (Bytes × β) → List Block → List (Bytes × β)) (h0 : ∀ l, ins l [] = l)
    (h1 : ∀ l b rest, ins l (b :: rest) = ins (b.txs.foldl (fun l t =>
      if l.any (·.1 = C.sha256d (encTx t.tx)) then l else l ++ [(C.sha256d (encTx t.tx), val b t)]) l) rest)
    (w blocks : List Block) (hn : ((w ++ blocks).flatMap (hashesOf C)).Nodup) :
    ins (w.flatMap (rowsOf C val)) blocks = (w ++ blocks).flatMap (rowsOf C val) := by
  induction blocks generalizing w with
  | nil => simp [h0]
  | cons b rest ih =>
    have hb : ((w.flatMap (rowsOf C val)).map (·.1) ++ hashesOf C b).Nodup := by
      rw [flatMap_rowsOf_fst]
      rw [List.flatMap_append, List.flatMap_cons, ← List.append_assoc] at hn
      exact (List.nodup_append.1 hn).1
    rw [h1, foldl_insert_fresh _ (val b) b.txs _ hb]
    have := ih (w ++ [b]) (by rw [List.append_assoc]; exact hn)
    simpa [rowsOf] using this

theorem insertLocator_fresh (w blocks : List Block) (hn : ((w ++ blocks).flatMap (hashesOf C)).Nodup) :
    insertLocator C (w.flatMap (locOf C)) blocks = (w ++ blocks).flatMap (locOf C) :=
  insertRows_fresh C _ (insertLocator C) (fun _ => rfl) (fun _ _ _ => rfl) w blocks hn

theorem insertContent_fresh (w blocks : List Block) (hn : ((w ++ blocks).flatMap (hashesOf C)).Nodup) :
    insertContent C (w.flatMap (contOf C)) blocks = (w ++ blocks).flatMap (contOf C) :=
  insertRows_fresh C _ (insertContent C) (fun _ => rfl) (fun _ _ _ => rfl) w blocks hn

/-- what the store needs of the blocks it has been given, in the order given: distinct ids, each parent given before its
child, no transaction id in two blocks -/
structure Writable (w : List Block) : Prop where
  ids : (w.map (·.id C)).Nodup
  parents : ∀ pre b post, w = pre ++ b :: post → b.prev = zeros 32 ∨ ∃ p ∈ pre, p.id C = b.prev
  hashes : (w.flatMap (hashesOf C)).Nodup

theorem Writable.prefix {w v : List Block} (h : Writable C (w ++ v)) : Writable C w :=
  ⟨(List.nodup_append.1 (List.map_append ▸ h.ids)).1,
   fun pre b post e => h.parents pre b (post ++ v) (by rw [e]; simp),
   (List.nodup_append.1 (List.flatMap_append ▸ h.hashes)).1⟩

theorem insertChain_fresh (w blocks : List Block) (hw : Writable C (w ++ blocks)) :
    insertChain (w.map (rowOf C)) blocks C = .ok ((w ++ blocks).map (rowOf C)) := by
  generalize hr : w.map (rowOf C) = rows
  -- the ends of `insertChain`: 1 no block left, 2 `b` is there already, 3 its parent is missing, 4 its row is appended
  fun_induction insertChain rows blocks C generalizing w with
  | case1 => simp [← hr]
  | case2 rows b rest C hin =>
    subst hr
    rw [any_key_eq_false ChainRow.id _ (b.id C) (rest.map (·.id C))
      (by simpa [List.map_map, Function.comp_def, rowOf] using hw.ids)] at hin
    cases hin
  | case3 rows b rest C _ hp =>
    subst hr
    obtain ⟨p, hp', hpid⟩ := (hw.parents w b rest rfl).resolve_left hp.1
    have hnot := hp.2
    simp only [Bool.not_eq_true', List.any_eq_false, decide_eq_true_eq] at hnot
    exact (hnot (rowOf C p) (List.mem_map_of_mem hp') hpid).elim
  | case4 rows b rest C _ _ ih =>
    subst hr
    simpa [rowOf] using ih (w ++ [b]) (by rw [List.append_assoc]; exact hw) (by simp [rowOf])

theorem inputsForeignKeyOk_of (w blocks : List Block)
    (h : ∀ b ∈ blocks, ∀ t ∈ b.txs, ∀ i ∈ t.tx.inputs, i.ref.hash = zeros 32 ∨
      ∃ b' ∈ w, ∃ t' ∈ b'.txs, C.sha256d (encTx t'.tx) = i.ref.hash ∧ i.ref.index < t'.tx.outputs.length) :
    inputsForeignKeyOk (w.flatMap (contOf C)) blocks = true := by
  simp only [inputsForeignKeyOk, List.all_eq_true, Bool.or_eq_true, decide_eq_true_eq]
  intro b hb t ht i hi
  refine (h b hb t ht i hi).imp_right fun ⟨b', hb', t', ht', hh, hidx⟩ => ?_
  exact List.any_eq_true.2 ⟨(C.sha256d (encTx t'.tx), t'.tx),
    List.mem_flatMap.2 ⟨b', hb', List.mem_map.2 ⟨t', ht', rfl⟩⟩, by simp [hh, hidx]⟩

/-- every input of `batch` has the null hash or names an output of a transaction in `w ++ batch`: the foreign key of the inputs
table, as `inputsForeignKeyOk` tests it after the rows of `batch` are in -/
def RefsIn (w batch : List Block) : Prop :=
  ∀ b ∈ batch, ∀ t ∈ b.txs, ∀ i ∈ t.tx.inputs, i.ref.hash = zeros 32 ∨
    ∃ b' ∈ w ++ batch, ∃ t' ∈ b'.txs, C.sha256d (encTx t'.tx) = i.ref.hash ∧ i.ref.index < t'.tx.outputs.length

theorem write_storeOf (w batch : List Block) (hw : Writable C (w ++ batch)) (hrefs : RefsIn C w batch) :
    (storeOf C w).write C batch = (storeOf C (w ++ batch), true) := by
  simp only [Store.write, storeOf, insertChain_fresh C w batch hw, insertLocator_fresh C w batch hw.hashes,
    insertContent_fresh C w batch hw.hashes, inputsForeignKeyOk_of C (w ++ batch) batch hrefs]
  simp

theorem writeAll_storeOf (rest : List (List Block)) (w : List Block) (hw : Writable C (w ++ rest.flatten))
    (hrefs : ∀ d batch r, rest = d ++ batch :: r → RefsIn C (w ++ d.flatten) batch) :
    Store.writeAll C (storeOf C w) rest = (storeOf C (w ++ rest.flatten), true) := by
  induction rest generalizing w with
  | nil => simp [Store.writeAll]
  | cons batch rest' ih =>
    rw [List.flatten_cons, ← List.append_assoc] at hw ⊢
    rw [Store.writeAll, write_storeOf C w batch hw.prefix (by simpa using hrefs [] batch rest' rfl)]
    exact ih _ hw fun d b r e => by simpa [List.append_assoc] using hrefs (batch :: d) b r (by rw [e]; rfl)

/-- a run of rows of block `k` in front of rows whose first group is another block groups as `(k, hs)` -/
theorem groupRuns_append_run (k : Bytes) (hs : List Bytes) (hne : hs ≠ [])
    (rest : List (Bytes × Bytes)) (hk : ∀ x ∈ (groupRuns rest).head?, x.1 ≠ k) :
    groupRuns (hs.map (fun h => (h, k)) ++ rest) = (k, hs) :: groupRuns rest := by
  induction hs with
  | nil => exact absurd rfl hne
  | cons h t ih =>
    cases t with
    | nil =>
      simp only [List.map_cons, List.map_nil, List.cons_append, List.nil_append]
      rw [groupRuns]
      cases hg : groupRuns rest with
      | nil => rfl
      | cons p more =>
        obtain ⟨k', hs'⟩ := p
        have : k' ≠ k := hk (k', hs') (by simp [hg])
        simp [this]
    | cons h2 t' =>
      have := ih (by simp)
      simp only [List.map_cons, List.cons_append] at this ⊢
      rw [groupRuns, this]
      simp

theorem locOf_eq (b : Block) : locOf C b = (hashesOf C b).map (fun h => (h, b.id C)) := by
  simp [rowsOf, hashesOf, List.map_map, Function.comp_def]

theorem groupRuns_locOf (w : List Block) (hne : ∀ b ∈ w, b.txs ≠ [])
    (hn : (w.map (·.id C)).Nodup) :
    groupRuns (w.flatMap (locOf C)) = w.map (fun b => (b.id C, hashesOf C b)) := by
  induction w with
  | nil => rfl
  | cons b t ih =>
    rw [List.map_cons, List.nodup_cons] at hn
    have iht := ih (fun b' hb' => hne b' (List.mem_cons_of_mem _ hb')) hn.2
    rw [List.flatMap_cons, locOf_eq, groupRuns_append_run, iht, List.map_cons]
    · have := hne b (by simp)
      simpa [hashesOf] using this
    · rw [iht]
      intro x hx hxk
      have hx' := List.mem_of_mem_head? hx
      obtain ⟨b', hb', rfl⟩ := List.mem_map.1 hx'
      exact hn.1 (List.mem_map.2 ⟨b', hb', hxk⟩)

theorem lastRun_of_mem (runs : List (Bytes × List Bytes)) (k : Bytes) (hs : List Bytes)
    (hn : (runs.map (·.1)).Nodup) (hm : (k, hs) ∈ runs) : lastRun runs k = some hs := by
  unfold lastRun
  rw [find?_of_nodup_fst runs.reverse k hs ?_ (List.mem_reverse.2 hm)]
  · rfl
  · rw [List.map_reverse]
    exact List.pairwise_reverse.2 (hn.imp fun h => h.symm)

theorem insertByHeight_perm (r : ChainRow) (l : List ChainRow) :
    (insertByHeight r l).Perm (r :: l) := by
  -- the ends of `insertByHeight`, here and below: 1 the list is empty, 2 `r` goes in front of `x`, 3 it goes further down
  fun_induction insertByHeight r l with
  | case1 | case2 => exact List.Perm.refl _
  | case3 x rest _ ih => exact ((List.perm_cons x).2 ih).trans (List.Perm.swap r x rest)

/-- in height order, as `ORDER BY height` returns the rows -/
def SortedH (l : List ChainRow) : Prop :=
  l.Pairwise (fun a b => a.header.summary.height ≤ b.header.summary.height)

theorem insertByHeight_sorted (r : ChainRow) (l : List ChainRow) (h : SortedH l) :
    SortedH (insertByHeight r l) := by
  unfold SortedH at h ⊢
  fun_induction insertByHeight r l with
  | case1 => simp
  | case2 x rest hlt =>
    refine List.pairwise_cons.2 ⟨fun y hy => ?_, h⟩
    rcases List.mem_cons.1 hy with rfl | hy
    · exact Nat.le_of_lt hlt
    · exact Nat.le_trans (Nat.le_of_lt hlt) ((List.pairwise_cons.1 h).1 y hy)
  | case3 x rest hnlt ih =>
    rw [List.pairwise_cons] at h
    refine List.pairwise_cons.2 ⟨fun y hy => ?_, ih h.2⟩
    rcases List.mem_cons.1 ((insertByHeight_perm r rest).mem_iff.1 hy) with rfl | hy
    · exact Nat.le_of_not_lt hnlt
    · exact h.1 y hy

/-- `ORDER BY height`: the rows rearranged, in height order -/
theorem sortByHeight_spec (rows : List ChainRow) : (sortByHeight rows).Perm rows ∧ SortedH (sortByHeight rows) := by
  have key : ∀ (rows acc : List ChainRow), SortedH acc →
      (rows.foldl (fun acc r => insertByHeight r acc) acc).Perm (acc ++ rows) ∧
      SortedH (rows.foldl (fun acc r => insertByHeight r acc) acc) := by
    intro rows
    induction rows with
    | nil => intro acc h; simpa using h
    | cons r rest ih =>
      intro acc h
      obtain ⟨hp, hs⟩ := ih _ (insertByHeight_sorted r acc h)
      exact ⟨hp.trans (((insertByHeight_perm r acc).append_right rest).trans List.perm_middle.symm), hs⟩
  simpa [sortByHeight] using key rows [] List.Pairwise.nil

/-- `b` as `Store.read` returns it: all cached ids filled in -/
def readOf (b : Block) : Block :=
  ⟨b.header, b.txs.map (fun t => ⟨t.tx, some (C.sha256d (encTx t.tx))⟩), some (b.id C)⟩

theorem lastRun_storeOf (w : List Block) (hne : ∀ b ∈ w, b.txs ≠ [])
    (hn : (w.map (·.id C)).Nodup) (b : Block) (hb : b ∈ w) :
    lastRun (groupRuns (storeOf C w).locator) (b.id C) = some (hashesOf C b) := by
  show lastRun (groupRuns (w.flatMap (locOf C))) (b.id C) = some (hashesOf C b)
  rw [groupRuns_locOf C w hne hn]
  apply lastRun_of_mem
  · simpa [List.map_map, Function.comp_def] using hn
  · exact List.mem_map.2 ⟨b, hb, rfl⟩

/-- what `Store.read` makes of one row of the `chain` table: the function it maps over the sorted rows, word for word -/
def readRow (s : Store) (row : ChainRow) : Option Block :=
  match lastRun (groupRuns s.locator) row.id with
  | none => none
  | some hs => some ⟨row.header, hs.filterMap fun h => (s.content.find? (·.1 = h)).map fun (_, t) => ⟨t, some h⟩, some row.id⟩

theorem readRow_header {s : Store} {row : ChainRow} {b : Block} (h : readRow s row = some b) : b.header = row.header := by
  unfold readRow at h
  split at h
  · cases h
  · cases h; rfl

theorem readRow_storeOf (w : List Block) (hne : ∀ b ∈ w, b.txs ≠ [])
    (hn : (w.map (·.id C)).Nodup) (hshared : (w.flatMap (hashesOf C)).Nodup)
    (b : Block) (hb : b ∈ w) :
    readRow (storeOf C w) (rowOf C b) = some (readOf C b) := by
  unfold readRow readOf
  have hl := lastRun_storeOf C w hne hn b hb
  simp only [rowOf] at hl ⊢
  rw [hl]
  simp only [hashesOf, List.filterMap_map]
  congr 2
  apply filterMap_eq_map_of_forall
  intro t ht
  have hmem : (C.sha256d (encTx t.tx), t.tx) ∈ (storeOf C w).content :=
    List.mem_flatMap.2 ⟨b, hb, List.mem_map.2 ⟨t, ht, rfl⟩⟩
  have hnd : ((storeOf C w).content.map (·.1)).Nodup := by
    show ((w.flatMap (contOf C)).map (·.1)).Nodup
    rw [flatMap_rowsOf_fst]; exact hshared
  have := find?_of_nodup_fst _ _ _ hnd hmem
  simp only [Function.comp_apply]
  rw [this]
  rfl

theorem read_storeOf (w : List Block) (hne : ∀ b ∈ w, b.txs ≠ []) (hn : (w.map (·.id C)).Nodup)
    (hshared : (w.flatMap (hashesOf C)).Nodup) :
    (storeOf C w).read.Perm (w.map (readOf C)) ∧ ((storeOf C w).read.map (·.height)).Pairwise (· ≤ ·) := by
  obtain ⟨hperm, hsorted⟩ := sortByHeight_spec (w.map (rowOf C))
  have hread : (storeOf C w).read = (sortByHeight (w.map (rowOf C))).filterMap (readRow (storeOf C w)) := rfl
  rw [hread]
  constructor
  · refine (hperm.filterMap _).trans (List.Perm.of_eq ?_)
    rw [List.filterMap_map]
    exact filterMap_eq_map_of_forall _ _ _ (readRow_storeOf C w hne hn hshared)
  · exact List.pairwise_map.2 (hsorted.filterMap _ fun r r' hle b hb b' hb' => by
      rw [Block.height, Block.height, readRow_header hb, readRow_header hb']; exact hle)

end StoreL
end Model
