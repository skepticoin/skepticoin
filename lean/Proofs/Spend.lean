import Model.Wallet
import Proofs.Reach
import Proofs.Validation

/-! `create_spend_transaction` and `sign_transaction` of the wallet model: the collection loop `takeUntil` is the scan
`reach`; what a successful `createSpend` consists of. -/

namespace Model

/-- the looked-up values of the chosen references are the recorded outputs' values -/
theorem map_uval_chosen (u : Utxo) (chosen : List (OutRef × Output)) (h : ∀ ro ∈ chosen, u.get? ro.1 = some ro.2) :
    (chosen.map (·.1)).map (uval u) = chosen.map (·.2.value) := by
  rw [List.map_map]
  apply List.map_congr_left
  intro ro hro
  simp [uval, h ro hro]

/-- `takeUntil` is the scan `reach` over the references, valued by the unspent set — except that it
raises when it meets a reference that is not there. `f` is any relabelling of the references that
keeps their values (the identity for the model's own properties, the translated function's atoms in
`GenTie.SpendPlanRule`). -/
theorem takeUntil_spec (u : Utxo) (target : Nat) {α : Type} (val : α → Nat) (f : OutRef → α)
    (hv : ∀ r, val (f r) = uval u r) (refs : List OutRef) (acc : Nat) :
    match takeUntil u target refs acc with
    | .error _ => ∃ r ∈ refs, u.get? r = none
    | .ok none => reach val target (refs.map f) acc = none
    | .ok (some (chosen, total)) =>
      reach val target (refs.map f) acc = some (chosen.map fun ro => f ro.1) ∧
      (∀ ro ∈ chosen, u.get? ro.1 = some ro.2) ∧ total = acc + ((chosen.map fun ro => f ro.1).map val).sum := by
  have hv' : ∀ {r o}, u.get? r = some o → val (f r) = o.value := fun h => by simp [hv, uval, h]
  -- the ends of `takeUntil`: no reference left; `r` is missing; `r` reaches the target; the rest of the scan raises, runs
  -- out, or returns `l` (`ht`, with the statement for the rest as `ih`)
  fun_induction takeUntil u target refs acc with
  | case1 => rfl
  | case2 r rest acc hu => exact ⟨r, List.mem_cons_self, hu⟩
  | case3 r rest acc o hu hge => simp [reach, hv' hu, hge, hu]
  | case4 r rest acc o hu hge e ht ih =>
    rw [ht] at ih
    obtain ⟨r', hr', hn⟩ := ih
    exact ⟨r', List.mem_cons_of_mem _ hr', hn⟩
  | case5 r rest acc o hu hge ht ih =>
    rw [ht] at ih
    simp [reach, hv' hu, hge, ih]
  | case6 r rest acc o hu hge l total ht ih =>
    rw [ht] at ih
    obtain ⟨h1, h2, h3⟩ := ih
    refine ⟨by simp [reach, hv' hu, hge, h1], fun ro hro => ?_, by simp [h3, hv' hu, Nat.add_assoc]⟩
    rcases List.mem_cons.1 hro with rfl | hro
    · exact hu
    · exact h2 ro hro

theorem takeUntil_some {u : Utxo} {target : Nat} {refs : List OutRef} {acc : Nat}
    {chosen : List (OutRef × Output)} {total : Nat}
    (h : takeUntil u target refs acc = .ok (some (chosen, total))) :
      (∃ rest, refs = chosen.map (·.1) ++ rest) ∧ chosen ≠ [] ∧
      (∀ ro ∈ chosen, u.get? ro.1 = some ro.2) ∧
      total = acc + (chosen.map (·.2.value)).sum ∧ target ≤ total := by
  have hs := takeUntil_spec u target (uval u) id (fun _ => rfl) refs acc
  simp only [h, List.map_id, id] at hs
  obtain ⟨hr, hget, htot⟩ := hs
  obtain ⟨hne, ⟨rest, hpre⟩, hge, _⟩ := reach_some hr
  rw [← htot] at hge
  rw [map_uval_chosen u chosen hget] at htot
  exact ⟨⟨rest, hpre.symm⟩, fun e => hne (by rw [e]; rfl), hget, htot, hge⟩

theorem takeUntil_error {u : Utxo} {target : Nat} {refs : List OutRef} {acc : Nat} {e : Err}
    (h : takeUntil u target refs acc = .error e) : ∃ r ∈ refs, u.get? r = none := by
  have hs := takeUntil_spec u target (uval u) id (fun _ => rfl) refs acc
  rw [h] at hs
  exact hs

theorem takeUntil_none_iff (u : Utxo) (target : Nat) (refs : List OutRef) (acc : Nat)
    (hacc : acc < target) (hall : ∀ r ∈ refs, ∃ o, u.get? r = some o) :
    (takeUntil u target refs acc = .ok none ↔ acc + (refs.map (uval u)).sum < target) := by
  rw [← reach_eq_none_iff_lt _ _ _ _ hacc]
  have hs := takeUntil_spec u target (uval u) id (fun _ => rfl) refs acc
  rw [List.map_id] at hs
  split at hs
  · obtain ⟨r, hr, hn⟩ := hs
    obtain ⟨o, ho⟩ := hall r hr
    rw [hn] at ho; cases ho
  · simp [*]
  · simp [*]

/-- the inputs `sign_transaction` builds -/
def signedInputs (chosen : List (OutRef × Output)) (sigs : List Bytes) : List Input :=
  (chosen.zip sigs).map fun ((r, _), s) => ⟨r, .secp s⟩

section
variable {w : Wallet} {u : Utxo} {bal : PKBalances} {amount fee : Nat} {recipient change : Bytes}

theorem planSpend_error {e : Err} (h : takeUntil u (amount + fee) (w.candidates bal) 0 = .error e) :
    w.planSpend u bal amount fee recipient change = .error e := by
  rw [Wallet.planSpend, h]

theorem planSpend_insufficient (h : takeUntil u (amount + fee) (w.candidates bal) 0 = .ok none) :
    w.planSpend u bal amount fee recipient change = .error (.other "Insufficient balance") := by
  rw [Wallet.planSpend, h]

theorem planSpend_ok {chosen : List (OutRef × Output)} {collected : Nat}
    (h : takeUntil u (amount + fee) (w.candidates bal) 0 = .ok (some (chosen, collected))) :
    w.planSpend u bal amount fee recipient change =
      .ok (chosen, ⟨chosen.map fun (r, _) => ⟨r, .signable⟩, [⟨amount, recipient⟩] ++
        (if collected ≠ amount + fee then [⟨collected - (amount + fee), change⟩] else [])⟩) := by
  rw [Wallet.planSpend, h]

end

theorem createSpend_eq (w : Wallet) (u : Utxo) (bal : PKBalances) (amount fee : Nat) (recipient change : Bytes)
    (sigs : List Bytes) :
    w.createSpend u bal amount fee recipient change sigs =
      match takeUntil u (amount + fee) (w.candidates bal) 0 with
      | .error e => .error e
      | .ok none => .error (.other "Insufficient balance")
      | .ok (some (chosen, collected)) =>
        if chosen.all (fun (_, o) => w.keys.contains o.pk) && sigs.length = chosen.length then
          .ok ({ w with spent := w.spent ++ chosen.map (·.1) },
               ⟨signedInputs chosen sigs, [⟨amount, recipient⟩] ++
                 (if collected ≠ amount + fee then [⟨collected - (amount + fee), change⟩] else [])⟩)
        else .error (.other "Can't sign this; no known private key in wallet") := by
  unfold Wallet.createSpend Wallet.planSpend Wallet.signTx
  rcases takeUntil u (amount + fee) (w.candidates bal) 0 with e | _ | ⟨chosen, collected⟩
  · rfl
  · rfl
  · dsimp only
    cases chosen.all (fun (_, o) => w.keys.contains o.pk) && decide (sigs.length = chosen.length) <;> rfl

theorem createSpend_ok {w w' : Wallet} {u : Utxo} {bal : PKBalances} {amount fee : Nat} {recipient change : Bytes}
    {sigs : List Bytes} {t : Tx} (h : w.createSpend u bal amount fee recipient change sigs = .ok (w', t)) :
    ∃ chosen collected, takeUntil u (amount + fee) (w.candidates bal) 0 = .ok (some (chosen, collected)) ∧
      (∀ ro ∈ chosen, ro.2.pk ∈ w.keys) ∧ sigs.length = chosen.length ∧
      t.inputs = signedInputs chosen sigs ∧
      t.outputs = [⟨amount, recipient⟩] ++
        (if collected ≠ amount + fee then [⟨collected - (amount + fee), change⟩] else []) ∧
      w' = { w with spent := w.spent ++ chosen.map (·.1) } := by
  rw [createSpend_eq] at h
  split at h
  · cases h
  · cases h
  · next chosen collected htake =>
    split at h
    · next hc =>
      cases h
      simp only [Bool.and_eq_true, List.all_eq_true, decide_eq_true_eq, List.contains_iff_mem] at hc
      exact ⟨chosen, collected, htake, fun ro hro => hc.1 ro hro, hc.2, rfl, rfl, rfl⟩
    · cases h

theorem signedInputs_refs (chosen : List (OutRef × Output)) (sigs : List Bytes) (h : sigs.length = chosen.length) :
    (signedInputs chosen sigs).map (·.ref) = chosen.map (·.1) := by
  rw [signedInputs, List.map_map]
  conv => rhs; rw [← List.map_fst_zip (l₁ := chosen) (l₂ := sigs) (by omega), List.map_map]
  rfl

theorem signedInputs_secp (chosen : List (OutRef × Output)) (sigs : List Bytes) :
    ∀ i ∈ signedInputs chosen sigs, ∃ s, i.sig = .secp s := by
  intro i hi
  simp only [signedInputs, List.mem_map] at hi
  obtain ⟨⟨⟨r, o⟩, s⟩, _, rfl⟩ := hi
  exact ⟨s, rfl⟩

theorem mem_candidates_not_spent (w : Wallet) (bal : PKBalances) (r : OutRef) (h : r ∈ w.candidates bal) :
    r ∉ w.spent := by
  unfold Wallet.candidates at h
  simp only [List.mem_flatMap] at h
  obtain ⟨pk, _, hr⟩ := h
  split at hr
  · simp at hr
  · simp only [List.mem_filter, Bool.not_eq_true', List.any_eq_false, decide_eq_true_eq] at hr
    intro hs
    exact hr.2 r hs rfl

end Model
