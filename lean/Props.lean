import Props.GenTie.Params
import Props.GenTie.Subsidy
import Props.GenTie.Target
import Props.GenTie.Heights
import Props.C01
import Props.C02
import Props.C03
import Props.C03Balance
import Props.C04
import Props.C05
import Props.C05Code
import Props.C06
import Props.C07
import Props.C08
import Props.C09
import Props.C10
import Props.C11
import Props.C12
import Props.C12Reach
import Props.C13
import Props.C14
import Props.C14Session
import Props.C15
import Props.C16
import Props.C16Code
import Props.C17
import Props.C18
import Props.C19
import Props.C20
import Props.C20Stream
import Props.C09Stored
import Props.NonVacuity5
import Props.C13Node
import Props.SendPath
import Props.C10Follow
import Props.C10Walk
import Props.GenTie.CoinbaseRule
import Props.GenTie.SummaryRule
import Props.GenTie.HeaderRule
import Props.GenTie.Vlq
import Props.GenTie.SpendRule
import Props.GenTie.BlockRule
import Props.GenTie.BlockByItselfRule
import Props.GenTie.SpendByItselfRule
import Props.GenTie.FeeRule
import Props.GenTie.TargetRule
import Props.GenTie.GetBlocksRule
import Props.GenTie.HandleBlockRule
import Props.GenTie.MinerRule
import Props.GenTie.PoolRule
import Props.GenTie.WalletSaveRule
import Props.GenTie.ReceiveScriptRule
import Props.GenTie.MinerShutdownRule
import Props.GenTie.SendPathRule
import Props.GenTie.PeerBookRule
import Props.GenTie.TxHandlerRule
import Props.GenTie.HelloRule
import Props.GenTie.WalletKeysRule
import Props.GenTie.FlushRule
import Props.GenTie.SpendPlanRule
import Props.C10Fetch
import Props.GenTie.FetchRule
import Props.GenTie.DispatchRule
import Props.GenTie.AddBlockRule
import Props.GenTie.ReadPathRule
import Props.GenTie.ReceiveRule
import Props.GenTie.Layout
import Props.GenTie.BalancesRule
import Props.GenTie.MerkleRule
import Props.GenTie.AddBlockNvRule
import Props.C10Sync
import Props.C10Converge
import Props.GenTie.Order
import Props.GenTie.OrderBlockHandler
import Props.GenTie.OrderMiner
import Props.GenTie.OrderPool
import Props.GenTie.OrderFlush
import Props.GenTie.BalanceRule
import Props.Toy
import Props.NonVacuity1
import Props.NonVacuity2
import Props.NonVacuity3
import Props.NonVacuity4
