import Proofs.Vlq
import Proofs.Codec
import Proofs.Framing
import Proofs.Merkle
import Proofs.Map
import Proofs.Reach
import Proofs.Spend
import Proofs.Chain
import Proofs.Built
import Proofs.Validation
import Proofs.Scan
import Proofs.Value
import Proofs.Mining
import Proofs.NodeLemmas
import Proofs.Contain
import Proofs.FS
import Proofs.Book
import Proofs.WalletLemmas
import Proofs.StoreLemmas
import Proofs.Sync
import Proofs.Balance
import Proofs.Walk
import Proofs.CatchUp
