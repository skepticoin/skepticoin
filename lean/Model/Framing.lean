import Model.Basic

/-!
Model.Framing — `MessageReceiver` of networking/remote_peer.py: `MAGIC`, a 4-byte big-endian
length, then that many bytes of message.

`bad` says for which payloads `handle_message_data` raises (undecodable message, handler
error): the exception leaves `receive` at that point.
-/

namespace Model

structure RState where
  buffer : Bytes
  magicRead : Bool
  len : Option Nat
deriving Repr, DecidableEq

def RState.init : RState := ⟨[], false, none⟩

inductive FErr where
  | magic      -- "Insufficient magic"
  | tooBig     -- "len > MAX_MESSAGE_SIZE"
  | handler    -- exception out of handle_message_data
deriving Repr, DecidableEq

structure RResult where
  st : RState
  payloads : List Bytes
  err : Option FErr
deriving Repr, DecidableEq

/-- `if not self.magic_read and len(self.buffer) >= 4: …` -/
def phaseM (magic : Bytes) (st : RState) : Except FErr RState :=
  if !st.magicRead && decide (4 ≤ st.buffer.length) then
    if st.buffer.take 4 ≠ magic then .error .magic
    else .ok { st with magicRead := true, buffer := st.buffer.drop 4 }
  else .ok st

/-- `if self.len is None and len(self.buffer) >= 4: …` -/
def phaseL (maxSize : Nat) (st : RState) : Except FErr RState :=
  if st.len.isNone && decide (4 ≤ st.buffer.length) then
    let n := bytesToNat (st.buffer.take 4)
    if n > maxSize then .error .tooBig
    else .ok { st with len := some n, buffer := st.buffer.drop 4 }
  else .ok st

def settle (magic : Bytes) (maxSize : Nat) (st : RState) : Except FErr RState :=
  match phaseM magic st with
  | .error e => .error e
  | .ok s₁ => phaseL maxSize s₁

/-- what decides termination: every recursive call happens after `magic` and length (8 bytes)
of the next frame have been consumed, or on a strictly shorter buffer. A header phase that fires takes 4 bytes off
the buffer and sets its flag; the flag weighs 3 < 4, so firing does not increase the measure, while handing a frame
over clears both flags, so even an empty payload decreases it. -/
def RState.measure (st : RState) : Nat :=
  st.buffer.length + (if st.magicRead then 3 else 0) + (if st.len.isSome then 3 else 0)

/-! Each header phase either is idle (done already, or fewer than four bytes buffered) or fires. -/

theorem phaseM_idle (magic : Bytes) {st : RState} (h : st.magicRead = true ∨ st.buffer.length < 4) :
    phaseM magic st = .ok st := by
  rw [phaseM, if_neg]; rcases h with h | h <;> simp [h]

theorem phaseM_fire (magic : Bytes) {st : RState} (hm : st.magicRead = false)
    (hl : 4 ≤ st.buffer.length) :
    phaseM magic st =
      if st.buffer.take 4 = magic then .ok ⟨st.buffer.drop 4, true, st.len⟩ else .error .magic := by
  rw [phaseM, if_pos (by simp [hm, hl])]; split <;> simp_all

theorem phaseL_idle (maxSize : Nat) {st : RState} (h : st.len.isSome = true ∨ st.buffer.length < 4) :
    phaseL maxSize st = .ok st := by
  rw [phaseL, if_neg]; rcases h with h | h <;> simp [h, Option.isSome_iff_ne_none.mp]

theorem phaseL_fire (maxSize : Nat) {st : RState} (hn : st.len = none) (hl : 4 ≤ st.buffer.length) :
    phaseL maxSize st =
      if bytesToNat (st.buffer.take 4) > maxSize then .error .tooBig
      else .ok ⟨st.buffer.drop 4, st.magicRead, some (bytesToNat (st.buffer.take 4))⟩ := by
  rw [phaseL, if_pos (by simp [hn, hl])]

/-- a magic phase that returns: the measure does not grow, `len` is untouched, a magic already read stays read, and afterwards the
magic is read or fewer than four bytes are buffered -/
theorem phaseM_ok {magic : Bytes} {st s₁ : RState} (h : phaseM magic st = .ok s₁) :
    s₁.measure ≤ st.measure ∧ s₁.len = st.len ∧ (st.magicRead = true → s₁.magicRead = true) ∧
      (s₁.magicRead = true ∨ s₁.buffer.length < 4) := by
  by_cases hc : st.magicRead = true ∨ st.buffer.length < 4
  · rw [phaseM_idle magic hc] at h; cases h; exact ⟨Nat.le_refl _, rfl, id, hc⟩
  · have hm : st.magicRead = false := by simpa using fun hm => hc (.inl hm)
    rw [phaseM_fire magic hm (by omega)] at h
    split at h <;> cases h
    refine ⟨?_, rfl, fun _ => rfl, .inl rfl⟩
    simp only [RState.measure, List.length_drop, hm]
    simp; omega

/-- a length phase that returns: the measure does not grow, `magicRead` is untouched, and a length that is there afterwards was
there before or four bytes were buffered -/
theorem phaseL_ok {maxSize : Nat} {st s₂ : RState} (h : phaseL maxSize st = .ok s₂) :
    s₂.measure ≤ st.measure ∧ s₂.magicRead = st.magicRead ∧
      (s₂.len.isSome = true → st.len.isSome = true ∨ 4 ≤ st.buffer.length) := by
  by_cases hc : st.len.isSome = true ∨ st.buffer.length < 4
  · rw [phaseL_idle maxSize hc] at h; cases h; exact ⟨Nat.le_refl _, rfl, .inl⟩
  · have hn : st.len = none := by simpa using fun hn => hc (.inl hn)
    rw [phaseL_fire maxSize hn (by omega)] at h
    split at h <;> cases h
    refine ⟨?_, rfl, fun _ => .inr (by omega)⟩
    simp only [RState.measure, List.length_drop, hn]
    simp; omega

theorem settle_eq_bind (magic : Bytes) (maxSize : Nat) (st : RState) :
    settle magic maxSize st = (phaseM magic st).bind (phaseL maxSize) := by
  unfold settle; cases phaseM magic st <;> rfl

theorem settle_ok {magic : Bytes} {maxSize : Nat} {st s₂ : RState} :
    settle magic maxSize st = .ok s₂ ↔
      ∃ s₁, phaseM magic st = .ok s₁ ∧ phaseL maxSize s₁ = .ok s₂ := by
  rw [settle_eq_bind]; cases phaseM magic st <;> simp [Except.bind]

theorem settle_measure {magic : Bytes} {maxSize : Nat} {st s₂ : RState}
    (h : settle magic maxSize st = .ok s₂) : s₂.measure ≤ st.measure := by
  obtain ⟨s₁, hm, hl⟩ := settle_ok.mp h
  exact Nat.le_trans (phaseL_ok hl).1 (phaseM_ok hm).1

/-- the body of `receive` after `self.buffer += data` -/
def recv (magic : Bytes) (maxSize : Nat) (bad : Bytes → Bool) (st : RState) : RResult :=
  match hs : settle magic maxSize st with
  | .error e => ⟨st, [], some e⟩
  | .ok s₂ =>
    match hl : s₂.len with
    | none => ⟨s₂, [], none⟩
    | some n =>
      if hn : n ≤ s₂.buffer.length then
        let payload := s₂.buffer.take n
        if bad payload then ⟨s₂, [], some .handler⟩
        else
          let r := recv magic maxSize bad ⟨s₂.buffer.drop n, false, none⟩
          ⟨r.st, payload :: r.payloads, r.err⟩
      else ⟨s₂, [], none⟩
termination_by st.measure
decreasing_by
  have := settle_measure hs
  simp only [RState.measure, hl, List.length_drop] at this ⊢
  simp at this ⊢
  omega

/-- one call `receiver.receive(data)` -/
def feed (magic : Bytes) (maxSize : Nat) (bad : Bytes → Bool) (st : RState) (data : Bytes) : RResult :=
  recv magic maxSize bad { st with buffer := st.buffer ++ data }

/-- a connection: feed the chunks one after another, stop at the first error -/
def feedAll (magic : Bytes) (maxSize : Nat) (bad : Bytes → Bool) :
    RState → List Bytes → RResult
  | st, [] => ⟨st, [], none⟩
  | st, c :: cs =>
    let r := feed magic maxSize bad st c
    match r.err with
    | some e => ⟨r.st, r.payloads, some e⟩
    | none =>
      let r' := feedAll magic maxSize bad r.st cs
      ⟨r'.st, r.payloads ++ r'.payloads, r'.err⟩

/-- `MAGIC + struct.pack(">I", len(data)) + data` -/
def frame (magic : Bytes) (payload : Bytes) : Bytes := magic ++ natToBytes 4 payload.length ++ payload

end Model
